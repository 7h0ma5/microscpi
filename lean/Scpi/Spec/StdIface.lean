/-
What "an interface built with `ErrorCommands`" is in the model (commands.rs).  The user implements
`ErrorCommands::error_queue(&mut self) -> &mut impl ErrorQueue`, a mutable borrow of one field of
the user state: a lens (`getQ`, `setQ`).  The crate supplies `impl<I: ErrorCommands> ErrorHandler
for I`, whose `handle_error` pushes the error on that queue (`handleErrorQueue`), and the handlers
`system_error_next` / `system_error_count`, which the attribute macro registers under
`SYSTem:ERRor:[NEXT]?` / `SYSTem:ERRor:COUNt?` with no parameters.  Every other handler is user
code; the assumption made about it (`others_keep`) is that it does not touch the error queue.
-/
import Scpi.Commands
import Scpi.Exec

namespace Scpi
namespace E2E

structure ErrIface (σ : Type) where
  /-- the dispatcher's view of the interface -/
  I : Iface σ
  /-- `error_queue()`: the queue component of the user state … -/
  getQ : σ → EQueue
  /-- … and writing through the `&mut` -/
  setQ : σ → EQueue → σ
  get_set : ∀ s q, getQ (setQ s q) = q
  set_get : ∀ s, setQ s (getQ s) = s
  set_set : ∀ s q q', setQ (setQ s q) q' = setQ s q'
  /-- the blanket `impl ErrorHandler for I: ErrorCommands` -/
  onError_eq : ∀ s e, I.onError s e = setQ s (handleErrorQueue (getQ s) e)
  /-- command id of `system_error_next` -/
  idNext : Nat
  /-- command id of `system_error_count` -/
  idCount : Nat
  ids_ne : idNext ≠ idCount
  /-- `SYSTem:ERRor[:NEXT]?`: no parameters, the handler is `systemErrorNext` on the
  queue component -/
  next_cmd : ∃ c, I.cmds[idNext]? = some c ∧ c.argTys = [] ∧
    ∀ s tvs, c.handler s tvs =
      (setQ s (systemErrorNext (getQ s)).1, .ok (systemErrorNext (getQ s)).2)
  /-- `SYSTem:ERRor:COUNt?`: no parameters, the handler is `systemErrorCount` on the
  queue component; the state is unchanged -/
  count_cmd : ∃ c, I.cmds[idCount]? = some c ∧ c.argTys = [] ∧
    ∀ s tvs, c.handler s tvs = (s, .ok (systemErrorCount (getQ s)))
  others_keep : ∀ id c, I.cmds[id]? = some c → id ≠ idNext → id ≠ idCount →
    ∀ s tvs, getQ (c.handler s tvs).1 = getQ s

end E2E
end Scpi
