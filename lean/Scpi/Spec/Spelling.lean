/-
What "a header spelling of a declaration" means (C01 / C14), independent of the macro's path
enumeration and of the trie.  `Expands` is the rule on exact trie keys; `HeaderMatches` is the C01
acceptance rule, the same on the mnemonics as the user types them, letter case ignored.  Each has
a Boolean version (`expandsB`, `headerMatchesB`), through which the examples decide it.
-/
import Scpi.Macro

namespace Scpi

inductive Expands : List Part → List Bytes → Prop where
  | nil : Expands [] []
  | long (p : Part) {ps : List Part} {t : List Bytes} :
      Expands ps t → Expands (p :: ps) (p.long :: t)
  | short (p : Part) {ps : List Part} {t : List Bytes} :
      Expands ps t → Expands (p :: ps) (p.short :: t)
  | skip (p : Part) {ps : List Part} {t : List Bytes} :
      p.optional = true → Expands ps t → Expands (p :: ps) t

def Spells (c : Command) (path : List Bytes) : Prop := Expands c.parts path

def expandsB : List Part → List Bytes → Bool
  | [], [] => true
  | [], _ :: _ => false
  | p :: ps, [] => p.optional && expandsB ps []
  | p :: ps, k :: t =>
    ((k == p.long || k == p.short) && expandsB ps t) || (p.optional && expandsB ps (k :: t))

theorem expands_nil_iff (path : List Bytes) : Expands [] path ↔ path = [] := by
  constructor
  · intro h
    cases h
    rfl
  · rintro rfl
    exact .nil

theorem expands_cons_iff (p : Part) (ps : List Part) (path : List Bytes) :
    Expands (p :: ps) path ↔
      (∃ t, path = p.long :: t ∧ Expands ps t) ∨ (∃ t, path = p.short :: t ∧ Expands ps t) ∨
        (p.optional = true ∧ Expands ps path) := by
  constructor
  · intro h
    cases h with
    | long _ h => exact .inl ⟨_, rfl, h⟩
    | short _ h => exact .inr (.inl ⟨_, rfl, h⟩)
    | skip _ ho h => exact .inr (.inr ⟨ho, h⟩)
  · rintro (⟨t, rfl, h⟩ | ⟨t, rfl, h⟩ | ⟨ho, h⟩)
    · exact .long p h
    · exact .short p h
    · exact .skip p ho h

theorem expandsB_iff (ps : List Part) (path : List Bytes) :
    expandsB ps path = true ↔ Expands ps path := by
  induction ps generalizing path with
  | nil => cases path <;> simp [expandsB, expands_nil_iff]
  | cons p ps ih =>
    cases path with
    | nil => simp [expandsB, expands_cons_iff, ih]
    | cons k t =>
      simp only [expandsB, expands_cons_iff, Bool.or_eq_true, Bool.and_eq_true, beq_iff_eq, ih,
        List.cons.injEq, and_assoc, exists_and_left, exists_eq_left', or_and_right, or_assoc]

instance (ps : List Part) (path : List Bytes) : Decidable (Expands ps path) :=
  decidable_of_iff _ (expandsB_iff ps path)

instance (c : Command) (path : List Bytes) : Decidable (Spells c path) :=
  inferInstanceAs (Decidable (Expands c.parts path))

theorem Expands.forall_key {P : Bytes → Prop} {ps : List Part} {path : List Bytes}
    (h : Expands ps path) (hP : ∀ p ∈ ps, P p.short ∧ P p.long) : ∀ k ∈ path, P k := by
  induction h with
  | nil => nofun
  | long p _ ih =>
    exact List.forall_mem_cons.2 ⟨(hP p (.head _)).2, ih fun p' hp' => hP p' (.tail _ hp')⟩
  | short p _ ih =>
    exact List.forall_mem_cons.2 ⟨(hP p (.head _)).1, ih fun p' hp' => hP p' (.tail _ hp')⟩
  | skip p _ _ ih => exact ih fun p' hp' => hP p' (.tail _ hp')

theorem expands_long (ps : List Part) : Expands ps (ps.map (·.long)) := by
  induction ps with
  | nil => exact .nil
  | cons p ps ih => exact .long p ih

theorem expands_short (ps : List Part) : Expands ps (ps.map (·.short)) := by
  induction ps with
  | nil => exact .nil
  | cons p ps ih => exact .short p ih

theorem expands_minimal (ps : List Part) :
    Expands ps ((ps.filter (fun p => !p.optional)).map (·.short)) := by
  induction ps with
  | nil => exact .nil
  | cons p ps ih =>
    cases ho : p.optional with
    | true => simpa [List.filter, ho] using Expands.skip p ho ih
    | false => simpa [List.filter, ho] using Expands.short p ih

inductive HeaderMatches : List Part → List Bytes → Prop where
  | nil : HeaderMatches [] []
  | node (p : Part) {ps : List Part} (name : Bytes) {ns : List Bytes} :
      (eqIgnoreAsciiCase p.long name = true ∨ eqIgnoreAsciiCase p.short name = true) →
      HeaderMatches ps ns → HeaderMatches (p :: ps) (name :: ns)
  | skip (p : Part) {ps : List Part} {ns : List Bytes} :
      p.optional = true → HeaderMatches ps ns → HeaderMatches (p :: ps) ns

def headerMatchesB : List Part → List Bytes → Bool
  | [], [] => true
  | [], _ :: _ => false
  | p :: ps, [] => p.optional && headerMatchesB ps []
  | p :: ps, name :: ns =>
    ((eqIgnoreAsciiCase p.long name || eqIgnoreAsciiCase p.short name) && headerMatchesB ps ns) ||
      (p.optional && headerMatchesB ps (name :: ns))

theorem headerMatchesB_iff (ps : List Part) (ns : List Bytes) :
    headerMatchesB ps ns = true ↔ HeaderMatches ps ns := by
  constructor
  · intro h
    fun_induction headerMatchesB ps ns with
    | case1 => exact .nil
    | case2 => cases h
    | case3 p ps ih =>
      rw [Bool.and_eq_true] at h
      exact .skip p h.1 (ih h.2)
    | case4 p ps name ns ih1 ih2 =>
      simp only [Bool.or_eq_true, Bool.and_eq_true] at h
      exact h.elim (fun h => .node p name h.1 (ih1 h.2)) fun h => .skip p h.1 (ih2 h.2)
  · intro h
    induction h with
    | nil => rfl
    | node p name hm _ ih => simp [headerMatchesB, hm, ih]
    | @skip p ps ns ho _ ih => cases ns <;> simp [headerMatchesB, ho, ih]

instance (ps : List Part) (ns : List Bytes) : Decidable (HeaderMatches ps ns) :=
  decidable_of_iff _ (headerMatchesB_iff ps ns)

end Scpi
