/-
Specification side of C03 (parameter conversion), written without reference to the model's
conversion functions: what an integer literal and a decimal real literal are and which number
each denotes, and the value of a finite IEEE-754 bit pattern in units of the smallest
sub-normal, so that "nearest" is a cross-multiplication over the natural numbers.
-/
import Scpi.Value

namespace Scpi
namespace C03

/-! ### Integer literals -/

def charDigit (b : Nat) : Option Nat :=
  if 48 ≤ b ∧ b ≤ 57 then some (b - 48)
  else if 97 ≤ b ∧ b ≤ 122 then some (b - 97 + 10)
  else if 65 ≤ b ∧ b ≤ 90 then some (b - 65 + 10)
  else none

/-- Most significant digit first. -/
def digitsValue (radix : Nat) (ds : List Nat) : Nat :=
  ds.foldl (fun acc d => acc * radix + d) 0

def IsDigits (radix : Nat) (s : Bytes) (ds : List Nat) : Prop :=
  s.map charDigit = ds.map some ∧ ∀ d ∈ ds, d < radix

/-- The text `s` is an integer literal of radix `radix` with value `v`.  `+` is byte 43, `-` is
byte 45 and is a sign only for a `signed` type.  Nothing else is a literal: no white space, no
radix prefix, no digit separators, no empty digit string. -/
inductive IsNumeral (signed : Bool) (radix : Nat) : Bytes → Int → Prop where
  | unsignedDigits (s : Bytes) (ds : List Nat) (hne : s ≠ []) (hd : IsDigits radix s ds) :
      IsNumeral signed radix s (digitsValue radix ds)
  | plus (s : Bytes) (ds : List Nat) (hne : s ≠ []) (hd : IsDigits radix s ds) :
      IsNumeral signed radix (43 :: s) (digitsValue radix ds)
  | minus (s : Bytes) (ds : List Nat) (hs : signed = true) (hne : s ≠ [])
      (hd : IsDigits radix s ds) :
      IsNumeral signed radix (45 :: s) (-(digitsValue radix ds : Int))

theorem digitsValue_foldl (radix : Nat) : ∀ (l : List Nat) (a : Nat),
    l.foldl (fun acc d => acc * radix + d) a = a * radix ^ l.length + digitsValue radix l
  | [], a => (Nat.mul_one a).symm
  | x :: xs, a => by
    unfold digitsValue
    rw [List.foldl_cons, List.foldl_cons, Nat.zero_mul, Nat.zero_add,
      digitsValue_foldl radix xs (a * radix + x), digitsValue_foldl radix xs x, List.length_cons,
      Nat.pow_succ, Nat.add_mul, Nat.add_assoc, Nat.mul_assoc, Nat.mul_comm radix]

theorem digitsValue_cons (radix d : Nat) (ds : List Nat) :
    digitsValue radix (d :: ds) = d * radix ^ ds.length + digitsValue radix ds := by
  rw [← digitsValue_foldl, digitsValue, List.foldl_cons, Nat.zero_mul, Nat.zero_add]

theorem digitsValue_nil (radix : Nat) : digitsValue radix [] = 0 := rfl

theorem digitsValue_append (r : Nat) (a b : List Nat) :
    digitsValue r (a ++ b) = digitsValue r a * r ^ b.length + digitsValue r b := by
  rw [← digitsValue_foldl, digitsValue, digitsValue, List.foldl_append]

theorem digitsValue_singleton (r d : Nat) : digitsValue r [d] = d := by
  rw [digitsValue_cons, digitsValue_nil, List.length_nil, Nat.pow_zero, Nat.mul_one, Nat.add_zero]

theorem digitsValue_zeros (r k : Nat) : digitsValue r (List.replicate k 0) = 0 := by
  induction k with
  | zero => rfl
  | succ k ih => rw [List.replicate_succ, digitsValue_cons, ih, Nat.zero_mul]

/-! ### Decimal real literals -/

def AllDigits (s : Bytes) : Prop := ∀ b ∈ s, 48 ≤ b ∧ b ≤ 57

def decimalValue (s : Bytes) : Nat := digitsValue 10 (s.map (· - 48))

/-- `ex` is an exponent part denoting `10^x`; the absent exponent is `x = 0`. -/
inductive IsExponent : Bytes → Int → Prop where
  | absent : IsExponent [] 0
  | plain (c : Nat) (ed : Bytes) (hc : c = 69 ∨ c = 101) (hne : ed ≠ []) (hd : AllDigits ed) :
      IsExponent (c :: ed) (decimalValue ed)
  | plus (c : Nat) (ed : Bytes) (hc : c = 69 ∨ c = 101) (hne : ed ≠ []) (hd : AllDigits ed) :
      IsExponent (c :: 43 :: ed) (decimalValue ed)
  | minus (c : Nat) (ed : Bytes) (hc : c = 69 ∨ c = 101) (hne : ed ≠ []) (hd : AllDigits ed) :
      IsExponent (c :: 45 :: ed) (-(decimalValue ed : Int))

/-- The text `s` (without sign) is a decimal real literal `ip [. fp] [exponent]` denoting
`mant · 10^exp10`, that is `ip.fp · 10^x`. -/
def IsDecimalText (s : Bytes) (mant : Nat) (exp10 : Int) : Prop :=
  ∃ (ip fp ex : Bytes) (x : Int), AllDigits ip ∧ AllDigits fp ∧ ip ++ fp ≠ [] ∧ IsExponent ex x ∧
    ((s = ip ++ ex ∧ fp = []) ∨ s = ip ++ 46 :: (fp ++ ex)) ∧
    mant = decimalValue (ip ++ fp) ∧ exp10 = x - (fp.length : Int)

/-! ### Finite floating-point values

The value of the finite, non-negative bit pattern `bits` (`bits < f.infBits`) with
exponent field `E = f.expOf bits` and fraction field `F = f.fracOf bits` is

* `F · 2^(1 - bias - mbits)` when `E = 0` (zero and the sub-normal numbers),
* `(2^mbits + F) · 2^(E - bias - mbits)` otherwise (the normal numbers).

Every such value is a multiple of the smallest sub-normal `2^(1 - bias - mbits)
= 1 / 2^(bias + mbits - 1)`; so, without rational numbers,

    value bits = fscaled f bits / funitDen f

with the two natural numbers below, and "`value u` is at least as far from `n/d` as
`value b`" is the cross-multiplied `fdist f n d b ≤ fdist f n d u`. -/

def fmant (f : FloatFmt) (bits : Nat) : Nat :=
  if f.expOf bits = 0 then f.fracOf bits else 2 ^ f.mbits + f.fracOf bits

/-- The value is `fmant · 2^fexp`. -/
def fexp (f : FloatFmt) (bits : Nat) : Int :=
  (if f.expOf bits = 0 then 1 else (f.expOf bits : Int)) - (f.bias : Int) - (f.mbits : Int)

/-- `E - 1` is truncated subtraction, so one formula serves `E = 0` and `E ≥ 1`. -/
def fscaled (f : FloatFmt) (bits : Nat) : Nat := fmant f bits * 2 ^ (f.expOf bits - 1)

def funitDen (f : FloatFmt) : Nat := 2 ^ (f.bias + f.mbits - 1)

def absDiff (a b : Nat) : Nat := (a - b) + (b - a)

/-- Distance between the value of `bits` and `n/d`, multiplied by `d · funitDen f`. -/
def fdist (f : FloatFmt) (n d bits : Nat) : Nat := absDiff (fscaled f bits * d) (n * funitDen f)

end C03
end Scpi
