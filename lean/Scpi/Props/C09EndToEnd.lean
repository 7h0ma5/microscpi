/-
C09, end to end — "Errors are retrievable in the order they occurred:
SYSTem:ERRor[:NEXT]? removes and returns the oldest entry as
<number>,"<description>", returning 0 and an empty description when the queue is
empty, and SYSTem:ERRor:COUNt? returns the number of stored entries.  The queue never
holds more than its capacity: an error arriving while it is full replaces the newest
stored entry by -350 'Queue overflow' and leaves older entries intact.  This holds
for every interleaving of faulty messages, queue queries and ordinary commands,
including several in one message."

`Scpi/Props/C09.lean` proves the statement for the queue as a data structure.  This
file lifts it through the dispatcher: for every interface built with
`ErrorCommands` (`Scpi.E2E.ErrIface`: arbitrary user state, arbitrary tree, arbitrary
other handlers as long as they leave the queue alone), every input and every writer,
the queue after `run` is the queue before it with the observable events of the run
replayed in order (`handle_error_pushes`): `push e` for every reported error `e`
(parse-level or execution-level), `pop` for every invocation of the `NEXT?` handler,
nothing for any other handler.  The other statements are read off that replay
(`run_is_queue_history`, `errors_stored_in_order`, `queue_bounded_always`,
`overflow_in_message`) or say what one `NEXT?` / `COUNt?` unit writes
(`next_unit_response`, `count_unit_response`).

Non-vacuity: `QDemo` — a concrete interface whose tree is the one the macro model
compiles from `SYSTem:ERRor:[NEXT]?`, `SYSTem:ERRor:COUNt?`, `F`, `X`, queue capacity
2 — and the history `NOPE\nF;F\nSYST:ERR:COUN?;:SYST:ERR?;:SYST:ERR?;:SYST:ERR?\n`.
-/
import Scpi.Proofs.E2EQueue
import Scpi.Props.C02
import Scpi.Props.C04
import Scpi.Props.C06
import Scpi.Props.C14

namespace Scpi
namespace C09

open E2E

/-! ## Every reported error is pushed exactly once, in order -/

section
variable {σ : Type} (E : ErrIface σ)

/-- `handle_error_pushes` from an arbitrary header path (`run_from`). -/
theorem handle_error_pushes_from (h : Node) (x : Bytes) (w : Writer) (s : σ) :
    E.getQ (runFrom E.I h x w s).s = replay E.idNext (E.getQ s) (eventsOf E.I h x w s) := by
  have := runFrom_preserves (traced_preserves E (E.getQ s)) h x w (s, []) rfl
  rwa [Iface.traced, runFrom_instrument] at this

/-- **`handle_error_pushes`.**  For every interface built with `ErrorCommands`,
every input `x`, writer `w` and user state `s`: the error queue after `run` is the
queue before it with the observable events of the run (`eventsOf`: the log of the
tracing wrapper `I.traced`, i.e. every handler invocation and every error handed to
`handle_error`, in the order in which they happened) replayed: `push e` for each
reported error `e`, `pop` for each invocation of the `NEXT?` handler, nothing for
any other handler.  So every error of the run — whether a parse-level fault of a
message or the error of an executed unit — is pushed exactly once, at its place in
the order of events, and nothing else touches the queue. -/
theorem handle_error_pushes (x : Bytes) (w : Writer) (s : σ) :
    E.getQ (run E.I x w s).s = replay E.idNext (E.getQ s) (eventsOf E.I E.I.root x w s) :=
  handle_error_pushes_from E E.I.root x w s

/-- The events are those the tracing wrapper of C02/C06 logs (started with an
empty log), and tracing does not change the user state. -/
theorem events_are_the_trace {σ : Type} (I : Iface σ) (h : Node) (x : Bytes) (w : Writer) (s : σ) :
    (runFrom I.traced h x w (s, [])).s = ((runFrom I h x w s).s, eventsOf I h x w s) := by
  rw [C02.traced_same_behaviour I h x w s []]
  rfl

/-- The error events of the trace are exactly the errors the logging wrapper of C06
records — one per faulty unit (`Scpi.C06.one_error_per_unit`), parse-level or
execution-level, in order of occurrence. -/
theorem reported_errors_are_the_error_events {σ : Type} (I : Iface σ) (h : Node) (x : Bytes)
    (w : Writer) (s : σ) :
    (runFrom I.logged h x w (s, [])).s.2 = (eventsOf I h x w s).filterMap evErr? := by
  rw [eventsOf_errs, C06.logged_runFrom]
  rfl

/-- One unit: the queue after the unit is the queue before it with the unit's events
replayed — first the handler invocation (if one is made), then the error report (if
the unit is faulty). -/
theorem unit_queue_effect (c : Cfg σ) :
    E.getQ (stepState (unitStep E.I c)) = replay E.idNext (E.getQ c.s) (unitEvents E.I c) := by
  have h := unitStep_preserves (traced_preserves E (E.getQ c.s)) (c.withLog []) rfl
  rw [Iface.traced, unitStep_withLog] at h
  cases hs : unitStep E.I c <;> rw [hs] at h <;> exact h

/-- **The run as a history of the bounded FIFO.**  The queue after a run holds what
the abstract bounded FIFO of capacity `cap` (`specRun`, C09) holds after the
operations the events stand for. -/
theorem run_is_queue_history (x : Bytes) (w : Writer) (s : σ) :
    (E.getQ (run E.I x w s).s).items =
      (specRun (E.getQ s).cap (E.getQ s).items
        ((eventsOf E.I E.I.root x w s).map (evOp E.idNext))).1 ∧
    (E.getQ (run E.I x w s).s).cap = (E.getQ s).cap := by
  rw [handle_error_pushes, replay_eq_runOps]
  have := queue_refines ((eventsOf E.I E.I.root x w s).map (evOp E.idNext)) (E.getQ s)
  refine ⟨(congrArg Prod.fst this : _), ?_⟩
  rw [← replay_eq_runOps, replay_cap]

/-- **Errors are stored in the order they occurred.**  If no `NEXT?` is executed
during the run and the reported errors fit, the queue afterwards is the queue before
followed by the reported errors (`errorsOf`: the error log of C06) in order. -/
theorem errors_stored_in_order (x : Bytes) (w : Writer) (s : σ)
    (hno : ∀ args, Ev.call E.idNext args ∉ eventsOf E.I E.I.root x w s)
    (hfit : (E.getQ s).items.length + (errorsOf E.I E.I.root x w s).length ≤ (E.getQ s).cap) :
    (E.getQ (run E.I x w s).s).items = (E.getQ s).items ++ errorsOf E.I E.I.root x w s := by
  rw [handle_error_pushes, replay_no_next _ _ _ hno, eventsOf_errs]
  exact pushAll_items _ _ hfit

/-! ## The capacity bound -/

/-- **`queue_bounded_always`.**  For every input, the queue holds at most its capacity
after the run if it did before, and the capacity itself never changes. -/
theorem queue_bounded_always (x : Bytes) (w : Writer) (s : σ)
    (h : (E.getQ s).items.length ≤ (E.getQ s).cap) :
    (E.getQ (run E.I x w s).s).items.length ≤ (E.getQ s).cap ∧
    (E.getQ (run E.I x w s).s).cap = (E.getQ s).cap := by
  rw [handle_error_pushes]
  exact ⟨replay_length_le _ _ _ h, replay_cap _ _ _⟩

/-- The replay of every prefix of the events of the run respects the bound too.  This
speaks of the replay; that the queue passes through such replays during the run is shown
unit by unit (`unit_queue_effect`), not event by event. -/
theorem queue_bounded_at_every_event (x : Bytes) (w : Writer) (s : σ)
    (h : (E.getQ s).items.length ≤ (E.getQ s).cap) (n : Nat) :
    (replay E.idNext (E.getQ s) ((eventsOf E.I E.I.root x w s).take n)).items.length ≤
      (E.getQ s).cap :=
  replay_length_le _ _ _ h

/-! ## Overflow -/

/-- **`overflow_in_message`.**  Wherever in a run an error `e` is reported (`pre` are
the events before it, `post` those after it) while the queue is full: the newest
stored entry becomes −350 'Queue overflow', all older entries are intact (and `e`
itself is lost); the rest of the run goes on from that queue. -/
theorem overflow_in_message (x : Bytes) (w : Writer) (s : σ) (pre post : List Ev) (e : Err)
    (hev : eventsOf E.I E.I.root x w s = pre ++ Ev.error e :: post)
    (hfull : ¬ (replay E.idNext (E.getQ s) pre).items.length < (replay E.idNext (E.getQ s) pre).cap)
    (hne : (replay E.idNext (E.getQ s) pre).items ≠ []) :
    ∃ q2 : EQueue,
      q2.items = (replay E.idNext (E.getQ s) pre).items.dropLast ++ [Err.std .QueueOverflow] ∧
      q2.cap = (E.getQ s).cap ∧
      E.getQ (run E.I x w s).s = replay E.idNext q2 post := by
  refine ⟨(replay E.idNext (E.getQ s) pre).push e, overflow_keeps_older _ e hfull hne, ?_, ?_⟩
  · rw [push_cap, replay_cap]
  · rw [handle_error_pushes, hev, replay_append, replay_cons]
    rfl

/-- The case of a message whose only event is one error, on a full queue. -/
theorem overflow_single_error (x : Bytes) (w : Writer) (s : σ) (e : Err)
    (hev : eventsOf E.I E.I.root x w s = [Ev.error e])
    (hfull : ¬ (E.getQ s).items.length < (E.getQ s).cap) (hne : (E.getQ s).items ≠ []) :
    (E.getQ (run E.I x w s).s).items = (E.getQ s).items.dropLast ++ [Err.std .QueueOverflow] := by
  obtain ⟨q2, h1, _, h3⟩ := overflow_in_message E x w s [] [] e hev hfull hne
  rw [h3]
  exact h1

/-! ## `SYSTem:ERRor[:NEXT]?` and `SYSTem:ERRor:COUNt?` -/

/-- The bytes of the response to `SYSTem:ERRor[:NEXT]?` on queue `q` (without the
newline): `0,""` for the empty queue, else number, comma, and the description of the
OLDEST entry between double quotes, quotes inside it doubled. -/
def nextBytes (q : EQueue) : Bytes :=
  match q.items with
  | [] => [48, 44, 34, 34]
  | e :: _ => (intPieces e.number).flatten ++ [44] ++ (34 :: dbl e.descBytes ++ [34])

theorem nextBytes_empty (q : EQueue) (h : q.items = []) : nextBytes q = [48, 44, 34, 34] := by
  simp [nextBytes, h]

theorem nextBytes_oldest (q : EQueue) (e : Err) (rest : List Err) (h : q.items = e :: rest) :
    nextBytes q = (intPieces e.number).flatten ++ [44] ++ (34 :: dbl e.descBytes ++ [34]) := by
  simp [nextBytes, h]

theorem next_resp_encode (q : EQueue) : (systemErrorNext q).2.encode = nextBytes q := by
  unfold systemErrorNext nextBytes EQueue.pop
  cases q.items with
  | nil =>
    simp only [next_encoding, quoted_bytes]
    rfl
  | cons e rest =>
    simp only [next_encoding, quoted_bytes]

theorem next_resp_no_fail (q : EQueue) : ∀ c ∈ (systemErrorNext q).2.calls, c.isFail = false := by
  refine calls_no_fail _ ?_
  unfold systemErrorNext EQueue.pop
  cases q.items <;> simp only [Resp.All, Resp.AllL, LeafBlockOk, and_self]

/-- The `NEXT?` unit pops the queue whatever happens to the response: the handler runs
before anything is written, so an entry whose response does not fit in the writer is
removed all the same (and the write error is then reported like any other error). -/
theorem next_unit_queue (call : CommandCall) (w : Writer) (s : σ)
    (hq : call.query = true) (hslot : call.node.query = some E.idNext) (hargs : call.args = []) :
    (execute E.I call w s).1 = E.setQ s (E.getQ s).pop.2 := by
  rw [execute_returned ((callSlot_query hq).trans hslot) (hargs ▸ E.next_returned s)]

end

section
variable {σ : Type} (E : ErrIface σ)

/-- **`next_unit_response`.**  A unit `SYSTem:ERRor[:NEXT]?` (its header resolved to a
node whose query slot is the `NEXT?` handler; no parameters), executed on a state whose
queue is `q`, on any writer with room for the response: the execution succeeds; the
new user state is the old one with the oldest entry of the queue removed (the empty
queue stays empty); the writer has received exactly `nextBytes q` — `<number>,
"<description>"` of the oldest entry, or `0,""` — followed by a newline, and then one
flush; nothing else. -/
theorem next_unit_response (call : CommandCall) (w : Writer) (s : σ)
    (hq : call.query = true) (hslot : call.node.query = some E.idNext) (hargs : call.args = [])
    (hroom : w.cap = none ∨
      ∃ c, w.cap = some c ∧ w.buf.length + ((nextBytes (E.getQ s)).length + 1) ≤ c) :
    ∃ w', execute E.I call w s = (E.setQ s (E.getQ s).pop.2, w', .ok) ∧
      w'.cap = w.cap ∧ w'.buf = w.buf ++ nextBytes (E.getQ s) ++ [10] ∧
      ∃ ws : List Bytes, w'.evs = w.evs ++ ws.map WEv.w ++ [WEv.f] ∧
        ws.flatten = nextBytes (E.getQ s) ++ [10] := by
  rw [← next_resp_encode] at hroom ⊢
  exact execute_query_writes hq hslot (hargs ▸ E.next_returned s) (next_resp_no_fail _)
    ((C04.fits_iff w _).mpr hroom)

/-- The same unit inside a run: the loop goes on behind the unit with the popped queue
and the writer that received the response (no error is reported for the unit). -/
theorem next_unit_in_run (h : Node) (input i : Bytes) (call : CommandCall) (w : Writer) (s : σ)
    (hne : input ≠ []) (hp : parse E.I.root h input = .ok i (some call))
    (hq : call.query = true) (hslot : call.node.query = some E.idNext) (hargs : call.args = [])
    (hroom : w.cap = none ∨
      ∃ c, w.cap = some c ∧ w.buf.length + ((nextBytes (E.getQ s)).length + 1) ≤ c) :
    ∃ w', runFrom E.I h input w s =
        runFrom E.I (headerAfter E.I.root h call) i w' (E.setQ s (E.getQ s).pop.2) ∧
      w'.buf = w.buf ++ nextBytes (E.getQ s) ++ [10] := by
  obtain ⟨w', hex, _, hbuf, _⟩ := next_unit_response E call w s hq hslot hargs hroom
  refine ⟨w', ?_, hbuf⟩
  rw [C02.runFrom_call E.I h input i call w s hne hp, hex]
  rfl

/-- **`count_unit_response`.**  A unit `SYSTem:ERRor:COUNt?` executed on a state whose
queue holds `n` entries, on any writer with room: the execution succeeds, the user
state (queue included) is unchanged, and the writer has received exactly the decimal
digits of `n`, a newline, and then one flush. -/
theorem count_unit_response (call : CommandCall) (w : Writer) (s : σ)
    (hq : call.query = true) (hslot : call.node.query = some E.idCount) (hargs : call.args = [])
    (hroom : w.cap = none ∨
      ∃ c, w.cap = some c ∧ w.buf.length + ((natDigits (E.getQ s).items.length).length + 1) ≤ c) :
    ∃ w', execute E.I call w s = (s, w', .ok) ∧
      w'.cap = w.cap ∧ w'.buf = w.buf ++ natDigits (E.getQ s).items.length ++ [10] ∧
      ∃ ws : List Bytes, w'.evs = w.evs ++ ws.map WEv.w ++ [WEv.f] ∧
        ws.flatten = natDigits (E.getQ s).items.length ++ [10] := by
  have henc : (systemErrorCount (E.getQ s)).encode = natDigits (E.getQ s).items.length := by
    rw [count_is_length, encode_int, intPieces, if_neg (by omega), Int.toNat_natCast]
    exact List.append_nil _
  rw [← henc] at hroom ⊢
  exact execute_query_writes hq hslot (hargs ▸ E.count_returned s)
    (calls_no_fail (systemErrorCount (E.getQ s)) trivial) ((C04.fits_iff w _).mpr hroom)

end

namespace QDemo

/-- The declarations: the two the attribute adds for `error_commands`, a command `F`
whose handler fails, a command `X` that succeeds. -/
def decls : List Command := C14.decls ["SYSTem:ERRor:[NEXT]?", "SYSTem:ERRor:COUNt?", "F", "X"]

/-- The node `SYSTem:ERRor`: query slot 0 (the optional `NEXT` omitted), children
`NEXT` (query 0), `COUNT` and `COUN` (query 1). -/
def nErr : Node :=
  .mk 0 [(C14.b "NEXT", .mk 0 [] none (some 0)), (C14.b "COUNT", .mk 0 [] none (some 1)),
         (C14.b "COUN", .mk 0 [] none (some 1))] none (some 0)

def nSyst : Node := .mk 0 [(C14.b "ERROR", nErr), (C14.b "ERR", nErr)] none none

/-- The command tree (ids are positions in `decls`: `NEXT?` 0, `COUNt?` 1, `F` 2,
`X` 3).  `SYST:ERR?` and `SYST:ERR:NEXT?` both lead to id 0. -/
def tree : Node :=
  .mk 0 [(C14.b "SYSTEM", nSyst), (C14.b "SYST", nSyst), (C14.b "F", .mk 0 [] (some 2) none),
         (C14.b "X", .mk 0 [] (some 3) none)] none none

theorem decls_eq : decls =
    [⟨[⟨false, C14.b "SYST", C14.b "SYSTEM"⟩, ⟨false, C14.b "ERR", C14.b "ERROR"⟩,
        ⟨true, C14.b "NEXT", C14.b "NEXT"⟩], true⟩,
     ⟨[⟨false, C14.b "SYST", C14.b "SYSTEM"⟩, ⟨false, C14.b "ERR", C14.b "ERROR"⟩,
        ⟨false, C14.b "COUN", C14.b "COUNT"⟩], true⟩,
     ⟨[⟨false, C14.b "F", C14.b "F"⟩], false⟩, ⟨[⟨false, C14.b "X", C14.b "X"⟩], false⟩] := by
  have hF : Command.parse (C14.b "F") = .ok ⟨[⟨false, C14.b "F", C14.b "F"⟩], false⟩ := by
    decide +kernel
  have hX : Command.parse (C14.b "X") = .ok ⟨[⟨false, C14.b "X", C14.b "X"⟩], false⟩ := by
    decide +kernel
  rw [decls, C14.decls_cons_ok C14.parse_systErrNext, C14.decls_cons_ok C14.parse_systErrCount,
    C14.decls_cons_ok hF, C14.decls_cons_ok hX]
  rfl

/-- `tree` with its keys written out as bytes: the examples evaluate this one, since the kernel
is slow on string literals. -/
def treeBytes : Node :=
  let nErr : Node := .mk 0 [([78, 69, 88, 84], .mk 0 [] none (some 0)),
    ([67, 79, 85, 78, 84], .mk 0 [] none (some 1)), ([67, 79, 85, 78], .mk 0 [] none (some 1))]
    none (some 0)
  let nSyst : Node := .mk 0 [([69, 82, 82, 79, 82], nErr), ([69, 82, 82], nErr)] none none
  .mk 0 [([83, 89, 83, 84, 69, 77], nSyst), ([83, 89, 83, 84], nSyst),
    ([70], .mk 0 [] (some 2) none), ([88], .mk 0 [] (some 3) none)] none none

theorem tree_eq : tree = treeBytes := by
  rw [tree, nSyst, nErr]
  repeat rewrite [C14.b_ofList]
  rfl

/-- `tree` is exactly the tree the macro model compiles from the declarations. -/
theorem tree_compiled : insertAll emptyNode decls 0 = .ok tree := by
  rw [decls_eq, tree_eq]
  repeat rewrite [C14.b_ofList]
  simp [insertAll, insertPaths, insertAt, insertChild, Command.paths, extendPaths, emptyNode,
    treeBytes]

/-- User state: the error queue and a log of the user handlers that ran. -/
abbrev St := EQueue × List Nat

def iface : Iface St where
  root := tree
  cmds :=
    [ { argTys := [], handler := fun s _ =>
          (((systemErrorNext s.1).1, s.2), .ok (systemErrorNext s.1).2) },
      { argTys := [], handler := fun s _ => (s, .ok (systemErrorCount s.1)) },
      { argTys := [], handler := fun s _ => ((s.1, s.2 ++ [2]), .error (.custom 42 [120])) },
      { argTys := [], handler := fun s _ => ((s.1, s.2 ++ [3]), .ok .unit) } ]
  onError := fun s e => (handleErrorQueue s.1 e, s.2)

theorem iface_eq : iface = { iface with root := treeBytes } := by
  rw [← tree_eq]
  rfl

/-- The demo interface is an `ErrorCommands` interface. -/
def E : ErrIface St where
  I := iface
  getQ := Prod.fst
  setQ := fun s q => (q, s.2)
  get_set := fun _ _ => rfl
  set_get := fun _ => rfl
  set_set := fun _ _ _ => rfl
  onError_eq := fun _ _ => rfl
  idNext := 0
  idCount := 1
  ids_ne := by decide
  next_cmd := ⟨_, rfl, rfl, fun _ _ => rfl⟩
  count_cmd := ⟨_, rfl, rfl, fun _ _ => rfl⟩
  others_keep := by
    intro id c hc h0 h1 s tvs
    match id, h0, h1, hc with
    | 2, _, _, hc => cases hc; rfl
    | 3, _, _, hc => cases hc; rfl
    | n + 4, _, _, hc => simp [iface] at hc

/-- `NOPE\nF;F\nSYST:ERR:COUN?;:SYST:ERR?;:SYST:ERR?;:SYST:ERR?\n` -/
def history : Bytes :=
  C14.b "NOPE\nF;F\nSYST:ERR:COUN?;:SYST:ERR?;:SYST:ERR?;:SYST:ERR?\n"

/-- Initial state: empty queue of capacity 2. -/
def s0 : St := ({ cap := 2 }, [])

def W : Writer := { cap := none }

/-- The events of the history: the undefined header, `F` twice (each invoked, each
failing with the custom error 42), then `COUNt?` and three times `NEXT?`. -/
example : eventsOf iface tree history W s0 =
    [.error (.std .UndefinedHeader), .call 2 [], .error (.custom 42 [120]), .call 2 [],
     .error (.custom 42 [120]), .call 1 [], .call 0 [], .call 0 [], .call 0 []] := by
  rw [history, C14.b_ofList, iface_eq, tree_eq]
  decide +kernel

/-- The responses: count `2`; then `-113,"Undefined header"` (the oldest); then
`-350,"Queue overflow"` (the second `F` error arrived while the queue was full and
replaced the newest entry, the first `F` error); then `0,""`.  All in one response
message, separated by the newlines `execute` writes. -/
example : (run iface history W s0).w.buf =
    C14.b "2\n-113,\"Undefined header\"\n-350,\"Queue overflow\"\n0,\"\"\n" := by
  rw [history, C14.b_ofList, C14.b_ofList, iface_eq]
  decide +kernel

/-- After `NOPE\nF;F\n` the queue is `[-113, -350]`: the older entry is intact. -/
example : (run iface (C14.b "NOPE\nF;F\n") W s0).s.1.items =
    [.std .UndefinedHeader, .std .QueueOverflow] := by
  rw [C14.b_ofList, iface_eq]
  decide +kernel

/-- The hypotheses of `overflow_in_message` hold for the message `F\n` on the full queue
`[-113, 42]`, with `pre = [call F]` (the handler of `F` is invoked, then fails) and
`post = []`. -/
example :
    let s : St := ({ cap := 2, items := [.std .UndefinedHeader, .custom 42 [120]] }, [])
    eventsOf E.I E.I.root (C14.b "F\n") W s = [.call 2 []] ++ Ev.error (.custom 42 [120]) :: [] ∧
    ¬ (replay E.idNext (E.getQ s) [.call 2 []]).items.length <
        (replay E.idNext (E.getQ s) [.call 2 []]).cap ∧
    (replay E.idNext (E.getQ s) [.call 2 []]).items ≠ [] := by
  rw [C14.b_ofList, show E.I = iface from rfl, iface_eq]
  decide +kernel

/-- … and of `overflow_single_error` for the undefined header `NOPE\n`. -/
example :
    let s : St := ({ cap := 2, items := [.std .UndefinedHeader, .custom 42 [120]] }, [])
    eventsOf E.I E.I.root (C14.b "NOPE\n") W s = [Ev.error (.std .UndefinedHeader)] ∧
    (E.getQ (run E.I (C14.b "NOPE\n") W s).s).items =
      [.std .UndefinedHeader, .std .QueueOverflow] := by
  rw [C14.b_ofList, show E.I = iface from rfl, iface_eq]
  decide +kernel

/-- "The parser turns this input into a parameterless query unit whose node has `id` in
its query slot" as a Boolean, so that the kernel can evaluate it. -/
def isQueryCallTo (r : PResult (Option CommandCall)) (id : Nat) : Bool :=
  match r with
  | .ok _ (some call) => call.query && call.node.query == some id && call.args.isEmpty
  | _ => false

theorem isQueryCallTo_spec {r : PResult (Option CommandCall)} {id : Nat}
    (h : isQueryCallTo r id = true) :
    ∃ i call, r = .ok i (some call) ∧ call.query = true ∧ call.node.query = some id ∧
      call.args = [] := by
  unfold isQueryCallTo at h
  split at h
  · next i call =>
    simp only [Bool.and_eq_true, beq_iff_eq, List.isEmpty_iff] at h
    exact ⟨i, call, rfl, h.1.1, h.1.2, h.2⟩
  · cases h

/-- The hypotheses of `next_unit_response` / `count_unit_response` are satisfiable: the
calls the parser produces for `SYST:ERR?`, `system:error:next?` and `SYST:ERR:COUN?`. -/
example : ∃ i call, parse tree tree (C14.b "SYST:ERR?\n") = .ok i (some call) ∧
    call.query = true ∧ call.node.query = some E.idNext ∧ call.args = [] := by
  rw [C14.b_ofList, tree_eq]
  exact isQueryCallTo_spec (by decide +kernel)

example : ∃ i call, parse tree tree (C14.b "system:error:next?;") = .ok i (some call) ∧
    call.query = true ∧ call.node.query = some E.idNext ∧ call.args = [] := by
  rw [C14.b_ofList, tree_eq]
  exact isQueryCallTo_spec (by decide +kernel)

example : ∃ i call, parse tree tree (C14.b "SYST:ERR:COUN?\n") = .ok i (some call) ∧
    call.query = true ∧ call.node.query = some E.idCount ∧ call.args = [] := by
  rw [C14.b_ofList, tree_eq]
  exact isQueryCallTo_spec (by decide +kernel)

/-- `errors_stored_in_order` on `NOPE\nF\n` (no `NEXT?`, two errors fit). -/
example : (∀ args, Ev.call E.idNext args ∉ eventsOf E.I E.I.root (C14.b "NOPE\nF\n") W s0) ∧
    (E.getQ s0).items.length + (errorsOf E.I E.I.root (C14.b "NOPE\nF\n") W s0).length ≤
      (E.getQ s0).cap := by
  have h : eventsOf E.I E.I.root (C14.b "NOPE\nF\n") W s0 =
      [.error (.std .UndefinedHeader), .call 2 [], .error (.custom 42 [120])] := by
    rw [C14.b_ofList, show E.I = iface from rfl, iface_eq]
    decide +kernel
  refine ⟨fun args hm => ?_, ?_⟩
  · rw [h] at hm
    simp [E] at hm
  · rw [← eventsOf_errs, h]
    decide

end QDemo

end C09
end Scpi
