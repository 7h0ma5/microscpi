/-
C06 — a faulty unit costs exactly one error, and nothing else
(dispatcher side: the decision logic of `execute_command`, `execute`, `run`).

"A complete program message (its only newline is its terminator and it leaves no string
or block open) in which one unit is faulty - syntax error, undefined header, wrong
parameter count, unconvertible parameter, or an error returned by its handler - hands
exactly one error to the error handler (the handler's own error value, verbatim, in the
last case), executes the units before the faulty one normally, does not invoke the
faulty unit's handler unless the fault is the handler's own, and executes either all or
none of the units after it. Every later message is executed exactly as if the faulty
message had never been sent, …"

All theorems hold for every interface: every tree, every handler table (arbitrary
functions `σ → List TVal → σ × Except Err Resp`), every error handler, every writer.
Because the model is purely functional, "the handler was / was not invoked" and "how
many errors were reported" are made observable by instrumenting the interface with a
log (`Iface.logged`, `Iface.traced`) and proving that the instrumentation changes
nothing else (`logged_same_behaviour`).

* T6.1 one unit: `convertArgs_spec`, `convertArgs_first_error`, `execute_err_cases`,
  `execute_ok_cases`, `handler_invoked_at_most_once`, `one_error_per_unit`,
  `unit_faulty_iff`, `errors_of_run`, `errors_along_trace`.
* T6.2 later messages: `later_messages_unaffected`, `later_errors_unaffected`.

FINDINGS (witnesses below):
* `convertArgs_spec` needs the arity premise (`convertArgs_surplus_witness`).
* Re-synchronisation after a parse-level fault is on the raw byte 10, not on the
  message terminator: a newline inside a string or block parameter that FOLLOWS the
  faulty unit in the same message ends the skipping, and the tail of that parameter
  is run as a message of its own (`newline_in_string_after_fault`: one faulty unit,
  two errors; the property excludes such a message: its only newline is its
  terminator).  `one_error_per_unit` is therefore a statement per loop iteration, and
  the message-level count holds for messages whose only byte 10 is the terminator
  (`Props/C06Message.lean`).
* A sixth way to fail is not in the enumeration of the property: the handler
  succeeded but its response (or the newline of a query) did not fit the writer
  (case (e) of `execute_err_cases`); the handler HAS run then.
-/
import Scpi.Proofs.RunLog
import Scpi.Proofs.RunStepsDemo

namespace Scpi
namespace C06

/-! ## Parameter conversion -/

/-- **Conversion is positional, in order, one type per parameter**: with at least as
many parameters as types (the dispatcher checks equality before), `convertArgs`
succeeds with `tvs` iff `tvs` has one entry per type and entry `i` is the conversion
of parameter `i` to type `i`. -/
theorem convertArgs_spec (tys : List Ty) (args : List Value) (tvs : List TVal)
    (hl : tys.length ≤ args.length) :
    convertArgs tys args = .ok tvs ↔
      ∃ (_ : tvs.length = tys.length), ∀ (i : Nat) (hi : i < tys.length),
        convert tys[i] (args[i]'(by omega)) = .ok (tvs[i]'(by omega)) :=
  convertArgs_ok_iff tys args tvs hl

/-- **The error is that of the first parameter that does not convert**: `convertArgs`
fails with `e` iff some parameter `i` fails with `e` and all before it convert. -/
theorem convertArgs_first_error (tys : List Ty) (args : List Value) (e : Err)
    (hl : tys.length ≤ args.length) :
    convertArgs tys args = .error (.inl e) ↔
      ∃ (i : Nat) (hi : i < tys.length), convert tys[i] (args[i]'(by omega)) = .error e ∧
        ∀ (j : Nat) (hj : j < i), ∃ tv, convert (tys[j]'(by omega)) (args[j]'(by omega)) = .ok tv :=
  convertArgs_err_iff tys args e hl

/-- FINDING: without the arity premise the equivalence asked for (`… ↔ tys.length =
args.length ∧ …`) is false: surplus parameters are ignored by `convertArgs` itself;
it is `executeCommand` that rejects them beforehand. -/
theorem convertArgs_surplus_witness :
    convertArgs [] [Value.dec [49]] = .ok [] ∧ ([] : List Ty).length ≠ [Value.dec [49]].length :=
  ⟨rfl, by decide⟩

/-! ## One unit -/

/-- **T6.1 — the ways a unit can fail in execution, and what each does.**  If
`execute` returns the error `e` then exactly one of the following holds (the cases
exclude each other: `resolveCmd` is `none` or `some c`; the arity matches or not;
`convertArgs` fails or succeeds; the handler returns an error or a response):

(a) the slot is missing (`resolve_eq_none_iff`: the node has no handler of the kind
    asked for, or the id is not in the table): `UndefinedHeader`;
(b) the number of parameters is wrong: `UnexpectedNumberOfParameters`;
(c) a parameter does not convert: the error of the first such parameter
    (`convertArgs_first_error`);
    — in (a)–(c) user state and writer are untouched and NO handler invocation is made;
(d) the handler was invoked (once, with the converted parameters `tvs`) and returned
    the error `e` — handed on verbatim; the user state is the handler's, nothing written;
(e) the handler was invoked and succeeded, and writing its response failed with `e`
    (`respond_err_iff`: in the response, or in the newline of a query). -/
theorem execute_err_cases {σ : Type} (I : Iface σ) (call : CommandCall) (w w' : Writer) (s s' : σ)
    (e : Err) (h : execute I call w s = (s', w', .err e)) :
    (resolveCmd I call = none ∧ e = .std .UndefinedHeader ∧ s' = s ∧ w' = w ∧
        invocation I call = none) ∨
    ∃ c, resolveCmd I call = some c ∧
      ((call.args.length ≠ c.argTys.length ∧ e = .std .UnexpectedNumberOfParameters ∧
          s' = s ∧ w' = w ∧ invocation I call = none) ∨
       (call.args.length = c.argTys.length ∧ convertArgs c.argTys call.args = .error (.inl e) ∧
          s' = s ∧ w' = w ∧ invocation I call = none) ∨
       ∃ tvs id, call.args.length = c.argTys.length ∧ convertArgs c.argTys call.args = .ok tvs ∧
         invocation I call = some (id, tvs) ∧ I.cmds[id]? = some c ∧
         ((c.handler s tvs = (s', .error e) ∧ w' = w) ∨
          ∃ resp, c.handler s tvs = (s', .ok resp) ∧ respond call.query w resp = (w', .err e))) := by
  revert h
  refine execute_cases I call w s (motive := fun r => r = (s', w', .err e) → _) ?_ ?_ ?_ ?_ ?_
  · intro hr h
    cases h
    exact .inl ⟨hr, rfl, rfl, rfl, invocation_of_resolve_none I call hr⟩
  · intro c hr hl h
    cases h
    obtain ⟨id, _, _, hi⟩ := invocation_of_resolved I hr
    exact .inr ⟨c, hr, .inl ⟨hl, rfl, rfl, rfl, by rw [hi, if_pos hl]⟩⟩
  · intro c e1 hr hl hca h
    cases h
    obtain ⟨id, _, _, hi⟩ := invocation_of_resolved I hr
    exact .inr ⟨c, hr, .inr (.inl ⟨hl, hca, rfl, rfl, by rw [hi, if_neg (not_not_intro hl), hca]⟩)⟩
  · intro c tvs s1 e1 hr hl hca hh h
    cases h
    obtain ⟨id, _, hc, hi⟩ := invocation_of_resolved I hr
    exact .inr ⟨c, hr, .inr (.inr ⟨tvs, id, hl, hca, by rw [hi, if_neg (not_not_intro hl), hca], hc,
      .inl ⟨hh, rfl⟩⟩)⟩
  · intro c tvs s1 resp hr hl hca hh h
    obtain ⟨rfl, h2⟩ := Prod.mk.inj h
    obtain ⟨id, _, hc, hi⟩ := invocation_of_resolved I hr
    exact .inr ⟨c, hr, .inr (.inr ⟨tvs, id, hl, hca, by rw [hi, if_neg (not_not_intro hl), hca], hc,
      .inr ⟨resp, hh, h2⟩⟩)⟩

/-- **A unit that succeeds**: slot present, arity right, every parameter converted;
the handler was invoked with exactly the converted parameters, and its response
(plus, for a query, the newline; then a flush) was written completely. -/
theorem execute_ok_cases {σ : Type} (I : Iface σ) (call : CommandCall) (w w' : Writer) (s s' : σ)
    (h : execute I call w s = (s', w', .ok)) :
    ∃ c tvs resp id, resolveCmd I call = some c ∧ call.args.length = c.argTys.length ∧
      convertArgs c.argTys call.args = .ok tvs ∧ invocation I call = some (id, tvs) ∧
      I.cmds[id]? = some c ∧ c.handler s tvs = (s', .ok resp) ∧
      respond call.query w resp = (w', .ok) := by
  obtain ⟨id, resp, hs, ⟨c, tvs, hid, hl, hca, hh⟩, hr⟩ := execute_ok_returned h
  have hi : invocation I call = some (id, tvs) := by
    simp only [invocation, show unitSlot call = some id from hs, hid, hl, ne_eq, not_true_eq_false,
      if_false, hca]
  exact ⟨c, tvs, resp, id, resolveCmd_eq_some.2 ⟨id, hs, hid⟩, hl, hca, hi, hid, hh, hr⟩

/-- `execute` in closed form: the decision tree whose branches are the cases of
`execute_err_cases` and `execute_ok_cases`, and the crash of `convertArgs`. -/
theorem execute_closed_form {σ : Type} (I : Iface σ) (call : CommandCall) (w : Writer) (s : σ) :
    execute I call w s =
      match resolveCmd I call with
      | none => (s, w, .err (.std .UndefinedHeader))
      | some c =>
        if call.args.length ≠ c.argTys.length then (s, w, .err (.std .UnexpectedNumberOfParameters))
        else
          match convertArgs c.argTys call.args with
          | .error (.inl e) => (s, w, .err e)
          | .error (.inr cr) => (s, w, .crash cr)
          | .ok tvs =>
            match c.handler s tvs with
            | (s', .error e) => (s', w, .err e)
            | (s', .ok resp) => (s', respond call.query w resp) :=
  execute_eq I call w s

/-- **The handler is invoked at most once per unit — observably.**  With the tracing
wrapper (every handler appends `Ev.call id tvs` to a log when it runs) one `execute`
appends exactly the invocation `invocation I call` names — one event or none — and
does otherwise exactly what the untraced `execute` does. -/
theorem handler_invoked_at_most_once {σ : Type} (I : Iface σ) (call : CommandCall) (w : Writer)
    (s : σ) (l : List Ev) :
    execute I.traced call w (s, l) =
      (((execute I call w s).1,
        l ++ match invocation I call with
             | none => []
             | some (id, tvs) => [Ev.call id tvs]),
       (execute I call w s).2.1, (execute I call w s).2.2) := by
  unfold Iface.traced
  rw [execute_instrument]
  cases invocation I call with
  | none => rfl
  | some p => rfl

/-! ## One iteration of the loop: at most one error, and what follows -/

/-- **Logging does not change behaviour.**  `I.logged` pairs the user state with a
list of errors; its handlers act on the first component as those of `I`, its error
handler additionally appends the error.  A run of `I.logged` is the run of `I` with
the log `l ++ errorsOf …` beside the user state: rest, path, writer, crash flag and
user state agree, and the log only grows. -/
theorem logged_same_behaviour {σ : Type} (I : Iface σ) (x : Bytes) (w : Writer) (s : σ)
    (l : List Err) :
    (run I.logged x w (s, l)).s.1 = (run I x w s).s ∧
    (run I.logged x w (s, l)).w = (run I x w s).w ∧
    (run I.logged x w (s, l)).rest = (run I x w s).rest ∧
    (run I.logged x w (s, l)).header = (run I x w s).header ∧
    (run I.logged x w (s, l)).crash = (run I x w s).crash ∧
    (run I.logged x w (s, l)).s.2 = l ++ errorsOf I I.root x w s := by
  have : run I.logged x w (s, l) = (run I x w s).withLog (l ++ errorsOf I I.root x w s) :=
    runFrom_instrument I _ _ I.root x w s l
  rw [this]
  exact ⟨rfl, rfl, rfl, rfl, rfl, rfl⟩

/-- The same for `runFrom`, as one equation. -/
theorem logged_runFrom {σ : Type} (I : Iface σ) (h : Node) (x : Bytes) (w : Writer) (s : σ)
    (l : List Err) :
    runFrom I.logged h x w (s, l) = (runFrom I h x w s).withLog (l ++ errorsOf I h x w s) :=
  runFrom_instrument I _ _ h x w s l

/-- A unit is faulty — `unitFault I c = some e` — iff it has a syntax error (`e` is the
parser's error, `SyntaxError` if it gave none), or an undefined header (`fatal`), or
was accepted and its execution returned the error `e`. -/
theorem unit_faulty_iff {σ : Type} (I : Iface σ) (c : Cfg σ) (e : Err) :
    unitFault I c = some e ↔
      (∃ e', parse I.root c.header c.input = .soft e' ∧ e = parseErrToErr e') ∨
      parse I.root c.header c.input = .fatal e ∨
      ∃ i call, parse I.root c.header c.input = .ok i (some call) ∧
        (execute I call c.w c.s).2.2 = .err e := by
  constructor
  · unfold unitFault
    split
    · next e' hp => exact fun h => .inl ⟨e', hp, (Option.some.inj h).symm⟩
    · next e' hp => exact fun h => .inr (.inl (hp.trans (congrArg _ (Option.some.inj h))))
    · next i call hp =>
      intro h
      refine .inr (.inr ⟨i, call, hp, ?_⟩)
      split at h
      · next e' he => exact he.trans (congrArg _ (Option.some.inj h))
      · cases h
    · exact nofun
  · -- each disjunct fixes the verdict of `parse`, and with it the branch of `unitFault`
    rintro (⟨e', h, rfl⟩ | h | ⟨i, call, h, h'⟩)
    · simp only [unitFault, h]
    · simp only [unitFault, h]
    · simp only [unitFault, h, h']

/-- **T6.1 — one iteration, one error at most.**  One iteration of the loop of the
logging interface is the iteration of `I` with `(unitFault I c).toList` — no entry,
or the one error of the unit — appended to the log.  Moreover the iteration is of
exactly one of four kinds:

1. incomplete unit: nothing reported, the run stops with everything untouched;
2. empty message: nothing reported, go on behind the terminator from the root;
3. PARSE-LEVEL fault `e` (syntax error or undefined header): `onError e` once; the run
   goes on behind the next byte 10 from the root — nothing in front of that byte is
   executed; it is the message terminator unless a string or block parameter on the way
   contains a byte 10 (`newline_in_string_after_fault`) — or stops if there is none;
4. accepted unit: executed; `onError e` once iff the execution returned `.err e`; and
   WHETHER OR NOT it did, the run goes on behind the unit, on the same rest and with
   the same path — ALL following units are executed as after a successful unit. -/
theorem one_error_per_unit {σ : Type} (I : Iface σ) (c : Cfg σ) (l : List Err) :
    unitStep I.logged (c.withLog l) = (unitStep I c).withLog (l ++ (unitFault I c).toList) ∧
    (unitFault I c).toList.length ≤ 1 ∧
    ((parse I.root c.header c.input = .incomplete ∧ unitFault I c = none ∧
        unitStep I c = .stop { rest := c.input, header := c.header, w := c.w, s := c.s }) ∨
     (∃ i, parse I.root c.header c.input = .ok i none ∧ unitFault I c = none ∧
        unitStep I c = .next ⟨I.root, i, c.w, c.s⟩) ∨
     (∃ e, ((∃ e', parse I.root c.header c.input = .soft e' ∧ e = parseErrToErr e') ∨
            parse I.root c.header c.input = .fatal e) ∧
        unitFault I c = some e ∧
        unitStep I c =
          match afterNewline c.input with
          | some rest => .next ⟨I.root, rest, c.w, I.onError c.s e⟩
          | none => .stop { rest := c.input, header := c.header, w := c.w, s := I.onError c.s e }) ∨
     (∃ i call, parse I.root c.header c.input = .ok i (some call) ∧
        unitFault I c = (match (execute I call c.w c.s).2.2 with
                         | .err e => some e
                         | _ => none) ∧
        unitStep I c = .next ⟨headerAfter I.root c.header call, i, (execute I call c.w c.s).2.1,
          match (execute I call c.w c.s).2.2 with
          | .err e => I.onError (execute I call c.w c.s).1 e
          | _ => (execute I call c.w c.s).1⟩)) := by
  refine ⟨unitLog_logged I c ▸ unitStep_withLog I _ _ c l, Option.length_toList_le, ?_⟩
  have fault : ∀ e, ParseFault I c e → unitFault I c = some e := fun e hf =>
    (unit_faulty_iff I c e).2 (hf.imp_right .inl)
  refine unitStep_cases I c (motive := fun st => unitStep I c = st → _) ?_ ?_ ?_ ?_ ?_ rfl
  · exact fun hp hs => .inl ⟨hp, by rw [unitFault, hp], hs⟩
  · exact fun e hf _ _ => .inr (.inr (.inl ⟨e, hf, fault e hf, unitStep_fault I c e hf⟩))
  · exact fun e _ hf _ _ => .inr (.inr (.inl ⟨e, hf, fault e hf, unitStep_fault I c e hf⟩))
  · exact fun i hp hs => .inr (.inl ⟨i, hp, by rw [unitFault, hp], hs⟩)
  · intro i call hp hs
    refine .inr (.inr (.inr ⟨i, call, hp, ?_, hs.trans ?_⟩))
    · simp only [unitFault, hp]
      cases (execute I call c.w c.s).2.2 <;> rfl
    · cases (execute I call c.w c.s).2.2 <;> rfl

/-- **The errors of a whole run** are, unit by unit in the order written, the fault of
each unit that is reached: the first unit's (none or one), then those of the run on
the configuration it left.  So the number of errors reported equals the number of
faulty iterations, and each error is the one `unit_faulty_iff` names — for a handler's
own error, the handler's value verbatim (`execute_err_cases` (d)). -/
theorem errors_of_run {σ : Type} (I : Iface σ) (h : Node) (x : Bytes) (w : Writer) (s : σ)
    (hne : x ≠ []) :
    errorsOf I h x w s =
      (unitFault I ⟨h, x, w, s⟩).toList ++
        match unitStep I ⟨h, x, w, s⟩ with
        | .stop _ => []
        | .next c => errorsOf I c.header c.input c.w c.s :=
  unitLog_logged I ⟨h, x, w, s⟩ ▸ runLog_step I _ _ h x w s hne

/-- **Error count = number of faulty iterations.**  Along the chain of configurations a
run passes through (`C02.run_sequential`) the errors reported are exactly the faults
of the configurations before the last, in order — one per faulty unit, none per good
one — followed by the errors of the run from the last. -/
theorem errors_along_trace {σ : Type} (I : Iface σ) (cs : List (Cfg σ)) (c last : Cfg σ)
    (ht : IsTrace I c cs last) :
    errorsOf I c.header c.input c.w c.s =
      ((c :: cs).dropLast.filterMap (unitFault I)) ++
        errorsOf I last.header last.input last.w last.s := by
  induction cs generalizing c with
  | nil =>
    cases ht
    rfl
  | cons c' cs ih =>
    obtain ⟨hne, hs, ht'⟩ := ht
    rw [errors_of_run I c.header c.input c.w c.s hne]
    have : (⟨c.header, c.input, c.w, c.s⟩ : Cfg σ) = c := rfl
    rw [this, hs]
    simp only []
    rw [ih c' ht', List.dropLast_cons_cons, List.filterMap_cons]
    cases unitFault I c <;> rfl

theorem errors_of_nothing {σ : Type} (I : Iface σ) (h : Node) (w : Writer) (s : σ) :
    errorsOf I h [] w s = [] :=
  runLog_nil I _ _ h w s

/-! ## T6.2 — later messages -/

/-- **Every later message is executed as if the earlier ones had not been sent** —
except for what they did to the writer and the user's state (for a faulty message:
what its good units and the error handler did).  `x`: any input that ends with a
terminator and is consumed completely, faulty or not.  Parser finality enters as
hypotheses (proved with the parser properties). -/
theorem later_messages_unaffected {σ : Type} (I : Iface σ) (hOk : ParseFinalOk)
    (hErr : ParseFinalErr) (x y : Bytes) (w : Writer) (s : σ) (hx : x.getLast? = some 10)
    (hrest : (run I x w s).rest = []) :
    run I (x ++ y) w s = run I y (run I x w s).w (run I x w s).s :=
  (runFrom_append_consumed I hOk hErr I.root x w s hx hrest).2 y

/-- … and the errors reported for `x ++ y` are those for `x` followed by those `y`
gets when run on its own (from the root, on the writer and state `x` left). -/
theorem later_errors_unaffected {σ : Type} (I : Iface σ) (hOk : ParseFinalOk)
    (hErr : ParseFinalErr) (x y : Bytes) (w : Writer) (s : σ) (hx : x.getLast? = some 10)
    (hrest : (run I x w s).rest = []) :
    errorsOf I I.root (x ++ y) w s =
      errorsOf I I.root x w s ++ errorsOf I I.root y (run I x w s).w (run I x w s).s :=
  runLog_append I _ _ hOk hErr I.root x y w s hx hrest

/-! ## Non-vacuity and witnesses on the demo interface (`Scpi/Proofs/RunStepsDemo.lean`)

The user state lists the handlers that ran (99 = the error handler); the second
component is the error log. -/

/-- (d) `F 1;X⏎`: the handler of `F` runs (6), returns the custom error 1, which is
reported verbatim; `X` runs afterwards. -/
example : (run Demo.I.logged [70, 32, 49, 59, 88, 10] Demo.W ([], [])).s =
    ([6, 99, 0], [.custom 1 []]) := by decide +kernel
/-- … and in the trace the invocation of `F` precedes its error, which precedes `X`. -/
example : (run Demo.I.traced [70, 32, 49, 59, 88, 10] Demo.W ([], [])).s.2 =
    [Ev.call 6 [.int .u8 1], Ev.error (.custom 1 []), Ev.call 0 []] := by decide +kernel
/-- (c) `F x;X⏎`: the parameter does not convert; `F`'s handler does NOT run; `X` runs. -/
example : (run Demo.I.logged [70, 32, 120, 59, 88, 10] Demo.W ([], [])).s =
    ([99, 0], [.std .DataTypeError]) := by decide +kernel
/-- (b) `X 1;X⏎`: wrong parameter count; the first `X` does not run, the second does. -/
example : (run Demo.I.logged [88, 32, 49, 59, 88, 10] Demo.W ([], [])).s =
    ([99, 0], [.std .UnexpectedNumberOfParameters]) := by decide +kernel
/-- (a) `S;X⏎`: the node `S` exists but has no command handler: execution-level
`UndefinedHeader`; `X` runs. -/
example : (run Demo.I.logged [83, 59, 88, 10] Demo.W ([], [])).s =
    ([99, 0], [.std .UndefinedHeader]) := by decide +kernel
/-- (e) `X?⏎` on a writer with room for one byte: the handler runs (4), the response
`7` is written, the newline does not fit: `TooMuchData`. -/
example : (run Demo.I.logged [88, 63, 10] { cap := some 1 } ([], [])).s =
    ([4, 99], [.std .TooMuchData]) := by decide +kernel
/-- Parse-level undefined header, `?;X⏎`: one error, `X` does NOT run (none of the
following units). -/
example : (run Demo.I.logged [63, 59, 88, 10] Demo.W ([], [])).s =
    ([99], [.std .UndefinedHeader]) := by decide +kernel
/-- Parse-level syntax error, `X $;X⏎`: one error, neither `X` runs. -/
example : (run Demo.I.logged [88, 32, 36, 59, 88, 10] Demo.W ([], [])).s.1 = [99] ∧
    (run Demo.I.logged [88, 32, 36, 59, 88, 10] Demo.W ([], [])).s.2.length = 1 := by decide +kernel
/-- Units before the faulty one run normally: `S:A;B;?;X⏎`. -/
example : (run Demo.I.logged [83, 58, 65, 59, 66, 59, 63, 59, 88, 10] Demo.W ([], [])).s =
    ([1, 2, 99], [.std .UndefinedHeader]) := by decide +kernel
/-- The message after a faulty one: `?;X⏎X⏎`. -/
example : (run Demo.I.logged ([63, 59, 88, 10] ++ [88, 10]) Demo.W ([], [])).s =
    ([99, 0], [.std .UndefinedHeader]) := by decide +kernel
/-- The premises of `later_messages_unaffected` hold for the faulty message `?;X⏎`. -/
example : [63, 59, 88, (10 : Nat)].getLast? = some 10 ∧
    (run Demo.I [63, 59, 88, 10] Demo.W []).rest = [] := by decide +kernel

/-- FINDING — **one faulty unit, two errors.**  The message `?;T 'a⏎b'⏎` has one
faulty unit (`?`) followed by the well-formed unit `T 'a⏎b'` (on its own it runs
handler 5 and reports nothing).  After the fault the interpreter skips to the first
BYTE 10 — which is inside the string — and runs `b'⏎` as a message of its own: a
second error.  Skipping is by byte, not by message terminator. -/
theorem newline_in_string_after_fault :
    (run Demo.I.logged [84, 32, 39, 97, 10, 98, 39, 10] Demo.W ([], [])).s = ([5], []) ∧
    (run Demo.I.logged [63, 59, 84, 32, 39, 97, 10, 98, 39, 10] Demo.W ([], [])).s =
      ([99, 99], [.std .UndefinedHeader, .std .UndefinedHeader]) := by decide +kernel

end C06
end Scpi
