/-
C10 corner — a response that EXACTLY fills the response buffer is not lost.

`process::<N, _>` runs every message on a fresh `N`-byte response buffer
(`heapless::Vec<u8, N>`), and hands the buffer to the adapter (one `write`, one
`flush`) when it is not empty.  The theorems that compare this with `run` on an unbounded
writer (`C08.run_bounded_eq_unbounded`, `C08.process_payload_newline`) carry the
hypothesis `response length ≤ N` — with `≤`, so the boundary `= N` is included — and
`C07.process_eq_runs` gives the exact shape of the adapter calls.  `process_exact_fit` is
a short corollary of `C07.process_eq_runs`, `C07.isMessage_check` and
`C08.run_bounded_eq_unbounded`, stated for one complete message, with
* the adapter calls spelled out (`[write out, flush]`, nothing if `out` is empty),
* the errors and handler invocations compared through the tracing wrapper
  (`process_exact_fit_traced`),
and with examples evaluated AT the boundary (`N = 5`, a 5-byte response) and one byte
below it (`N = 4`: the terminator of the same response no longer fits, one error).
-/
import Scpi.Props.C07
import Scpi.Props.C08Process

namespace Scpi
namespace C10

/-- **A response that exactly fills the buffer is delivered.**  Let the stream be one
complete message `m = body ++ ⏎` (no other newline, consumed entirely by `run`) that
fits the `n`-byte command buffer, and let `out`, the bytes `run` writes for it on an
UNBOUNDED writer, satisfy `out.length ≤ n` — the boundary `out.length = n` included.
Then `process` with buffer size `n`, over every read schedule without transport fault,
* makes exactly the adapter calls `write out, flush` (none if `out` is empty) besides
  its reads — one write with exactly the bytes of `run`, one flush, nothing lost,
  nothing added — and
* ends in the user state `run` ends in (the user state is arbitrary and is changed only
  by handlers and the error handler: same handlers, same errors; made explicit in
  `process_exact_fit_traced`). -/
theorem process_exact_fit {σ : Type} (I : Iface σ) (n : Nat) (sc : Script) (body : Bytes) (s : σ)
    (hf : sc.fault = none) (hst : sc.stream = body ++ [10]) (hb : ∀ b ∈ body, b ≠ 10)
    (hfit : (body ++ [10]).length ≤ n)
    (hc : (run I (body ++ [10]) { cap := none } s).rest = [])
    (hresp : (run I (body ++ [10]) { cap := none } s).w.buf.length ≤ n) :
    (process I n sc s).trace.filter PEv.nonRead =
      (if (run I (body ++ [10]) { cap := none } s).w.buf = [] then []
       else [PEv.w (run I (body ++ [10]) { cap := none } s).w.buf, PEv.f]) ∧
    (process I n sc s).user = (run I (body ++ [10]) { cap := none } s).s := by
  have hn := pos_of_getLast_fits List.getLast?_concat hfit
  rw [List.length_append] at hfit
  obtain ⟨hu, ht⟩ := C07.process_eq_runs I n sc [body ++ [10]] s hn hf
    (hst.trans (List.append_nil _).symm)
    (fun m hm => by
      rw [List.mem_singleton.1 hm]
      exact C07.isMessage_check I n body { cap := none } s hb hfit hc)
  obtain ⟨es, eb, _⟩ := C08.run_bounded_eq_unbounded I n (body ++ [10]) s hresp
  rw [← es, ← eb]
  exact ⟨ht, hu⟩

/-- **… and the same handlers run and the same errors are reported.**  With the tracing
wrapper (`I.traced` logs every handler invocation with its converted parameters and
every error handed to the error handler, in order, and otherwise behaves like `I`) the
log of `process` is the log of `run` on an unbounded writer: in particular NO error
(`TooMuchData`, `SystemError`) is caused by the response filling the buffer to the
last byte. -/
theorem process_exact_fit_traced {σ : Type} (I : Iface σ) (n : Nat) (sc : Script) (body : Bytes)
    (s : σ) (hf : sc.fault = none) (hst : sc.stream = body ++ [10]) (hb : ∀ b ∈ body, b ≠ 10)
    (hfit : (body ++ [10]).length ≤ n)
    (hc : (run I (body ++ [10]) { cap := none } s).rest = [])
    (hresp : (run I (body ++ [10]) { cap := none } s).w.buf.length ≤ n) :
    (process I.traced n sc (s, [])).trace.filter PEv.nonRead =
      (if (run I (body ++ [10]) { cap := none } s).w.buf = [] then []
       else [PEv.w (run I (body ++ [10]) { cap := none } s).w.buf, PEv.f]) ∧
    (process I.traced n sc (s, [])).user =
      ((run I (body ++ [10]) { cap := none } s).s,
       runLog I (fun id tvs => [Ev.call id tvs]) (fun e => [Ev.error e]) I.root (body ++ [10])
         { cap := none } s) := by
  have e := run_traced I (body ++ [10]) { cap := none } s []
  obtain ⟨a, b⟩ := process_exact_fit I.traced n sc body (s, []) hf hst hb hfit
    (by rw [e]; exact hc) (by rw [e]; exact hresp)
  rw [a, b, e]
  exact ⟨rfl, rfl⟩

/-! ### At the boundary: `N = 5` and a 5-byte response -/

/-- One query `Q?` answering `1234`: with the terminator the response is the 5 bytes
`1234⏎`.  The user state logs handler calls (`none`) and reported errors (`some e`). -/
def fitI : Iface (List (Option Err)) where
  root := .mk 0 [([81], .mk 1 [] none (some 0))] none none
  cmds := [{ argTys := [], handler := fun s _ => (s ++ [none], .ok (.int 1234)) }]
  onError := fun s e => s ++ [some e]

/-- `Q?⏎` delivered in reads of 1 and 2 bytes. -/
def fitScript : Script := { stream := [81, 63, 10], sizes := [1, 2] }

/-- On an unbounded writer `run` consumes `Q?⏎`, answers the 5 bytes `1234⏎` and
reports nothing. -/
theorem fit_run : (run fitI [81, 63, 10] { cap := none } []).rest = [] ∧
    (run fitI [81, 63, 10] { cap := none } []).w.buf = [49, 50, 51, 52, 10] ∧
    (run fitI [81, 63, 10] { cap := none } []).s = [none] := by decide +kernel

/-- The hypotheses of `process_exact_fit` hold with EQUALITY in the response bound
(`out.length = 5 = n`), so the theorem gives: one write of all 5 bytes, one flush. -/
example : (process fitI 5 fitScript []).trace.filter PEv.nonRead =
      [.w [49, 50, 51, 52, 10], .f] ∧
    (process fitI 5 fitScript []).user = [none] := by
  have h := process_exact_fit fitI 5 fitScript [81, 63] [] rfl rfl (by decide) (by decide)
  -- `[81, 63] ++ [10]` becomes `[81, 63, 10]`, then the three facts of `fit_run` are put in
  simp only [List.cons_append, List.nil_append, fit_run.1, fit_run.2.1, fit_run.2.2] at h
  exact h trivial (by decide)

/-- The same by evaluating `process` itself: the whole trace, reads included. -/
example : (process fitI 5 fitScript []).trace = [.r 1 5, .r 2 4, .w [49, 50, 51, 52, 10], .f] ∧
    (process fitI 5 fitScript []).user = [none] := by decide +kernel

/-- The bound is sharp: with `N = 4` the digits fit but the terminator does not; the
unit reports `TooMuchData`, and the buffer sent is the truncated `1234`. -/
example : (process fitI 4 fitScript []).trace = [.r 1 4, .r 2 3, .w [49, 50, 51, 52], .f] ∧
    (process fitI 4 fitScript []).user = [none, some (.std .TooMuchData)] := by decide +kernel

end C10
end Scpi
