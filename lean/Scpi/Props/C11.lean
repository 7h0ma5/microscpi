/-
C11 — "Changing the case of mnemonics, exchanging short and long forms, adding or
removing white space (any of the bytes 0-9 and 11-32) where the syntax allows it -
before a unit, between header and parameters, around commas, before ';' or the
terminator - or ending the message with CR LF instead of LF never changes which
handlers run, the arguments they receive, the responses, or the errors reported."

Everything the dispatcher does with a program message unit is a function of the
`CommandCall` (or error) that `parse` returns and of the remaining input.  The
rendering theorem `parse_render` gives that result for every rendering of a
well-formed unit that `Scpi/Spec/Ast.lean` describes (white space around the colons of a
header, which the parser also accepts, is not among them: Scpi/Props/C01Corners.lean):
header `u.hdr`, literals `u.lits`, lexical
choices `ℓ : Lex` (white space before the unit, between header and parameters, around
each comma, before the terminator), terminator `t`, followed by any bytes `rest`:

    parse root cur (render u ℓ t ++ rest) =
      match resolve root cur u.hdr.path with
      | some (node, hdr) => ok rest (some {node, header := hdr, query, args := lits.map value,
                                          terminated := t = nl})
      | none             => fatal UndefinedHeader

The right-hand side does not mention `ℓ`: white space is irrelevant
(`parse_render_lex_irrelevant`, `crlf_eq_lf`).  It mentions the spelling of the
mnemonics only through `Node.child`, which ignores ASCII case
(`child_case_insensitive`, `resolve_case_insensitive`, `parse_render_case_irrelevant`).
The exchange of short and long forms is `Scpi.C01.same_handler`
(Scpi/Props/C01Macro.lean): every spelling that matches a declaration reaches the
same handler id by `childWalk`, which is the node component of `resolve`
(`resolve_node`).

The same theorem is the core of C03 (lexer part: `args = lits.map Lit.value`, the text
verbatim — Scpi/Props/C03Lex.lean), C08 (payloads verbatim — Scpi/Props/C08.lean) and
C01/C02 (`resolve` walks `Node.child` from the root or from the current path and
returns the parent as the new path: `resolve_node`, `resolve_parent`).

Proofs: Scpi/Proofs/Render*.lean.
-/
import Scpi.Proofs.RenderParse
import Scpi.Proofs.AsciiCase
import Scpi.Proofs.HeaderWalk

namespace Scpi
namespace C11

/-! ### The rendering theorem -/

/-- **Rendering theorem.**  For every command tree `root`, current path `cur`,
well-formed unit `u`, white-space choices `ℓ` (with white space after the header when
there are parameters), terminator `t` and continuation `rest`, `parse` returns the
call described by the AST — or `UndefinedHeader` when the header does not resolve —
and leaves exactly `rest`. -/
theorem parse_render (root cur : Node) (u : MsgUnit) (ℓ : Lex) (t : Term) (rest : Bytes)
    (hu : u.wf = true) (hℓ : ℓ.wf = true) (hfit : ℓ.fits u = true) :
    parse root cur (render u ℓ t ++ rest) =
      match resolve root cur u.hdr.path with
      | some nh => .ok rest (some { node := nh.1, header := nh.2, query := u.hdr.query,
                                     args := u.lits.map Lit.value, terminated := decide (t = .nl) })
      | none => .fatal (.std .UndefinedHeader) :=
  Scpi.parse_render root cur t rest hu hℓ hfit

/-- **White space is irrelevant**: two renderings of the same unit that differ in any
of the lexical choices give the same result. -/
theorem parse_render_lex_irrelevant (root cur : Node) (u : MsgUnit) (ℓ₁ ℓ₂ : Lex) (t : Term)
    (rest : Bytes) (hu : u.wf = true) (h₁ : ℓ₁.wf = true) (h₂ : ℓ₂.wf = true)
    (f₁ : ℓ₁.fits u = true) (f₂ : ℓ₂.fits u = true) :
    parse root cur (render u ℓ₁ t ++ rest) = parse root cur (render u ℓ₂ t ++ rest) := by
  rw [parse_render root cur u ℓ₁ t rest hu h₁ f₁, parse_render root cur u ℓ₂ t rest hu h₂ f₂]

/-- The empty message: white space and a newline. -/
theorem parse_empty (root cur : Node) (w rest : Bytes) (hw : allWs w = true) :
    parse root cur (w ++ 10 :: rest) = .ok rest none :=
  Scpi.parse_empty root cur rest hw

/-! ### White space, byte by byte -/

theorem isWs_iff (b : Nat) : isWs b = true ↔ (b ≤ 9 ∨ (11 ≤ b ∧ b ≤ 32)) :=
  Scpi.isWs_iff b

/-- Carriage return is white space; the terminators are not. -/
example : isWs 13 = true ∧ isWs 10 = false ∧ isWs 59 = false := by decide

/-! ### CR LF -/

/-- The same lexical choices with a carriage return before the terminator. -/
def withCR (ℓ : Lex) : Lex := { ℓ with trail := ℓ.trail ++ [13] }

theorem withCR_wf {ℓ : Lex} (h : ℓ.wf = true) : (withCR ℓ).wf = true := by
  obtain ⟨hlead, hsep, hcs, htrail⟩ := (Lex.wf_iff ℓ).mp h
  exact (Lex.wf_iff _).mpr ⟨hlead, hsep, hcs, allWs_append htrail (by decide)⟩

/-- **CR LF instead of LF**: a message unit `x ++ "\n"` and the same bytes ending in
`"\r\n"` are two renderings of the same unit, hence parse alike. -/
theorem crlf_eq_lf (root cur : Node) (u : MsgUnit) (ℓ : Lex) (rest : Bytes)
    (hu : u.wf = true) (hℓ : ℓ.wf = true) (hfit : ℓ.fits u = true) :
    ∃ x, render u ℓ .nl = x ++ [10] ∧ render u (withCR ℓ) .nl = x ++ [13, 10] ∧
      parse root cur (x ++ [13, 10] ++ rest) = parse root cur (x ++ [10] ++ rest) := by
  obtain ⟨x, e2, e1⟩ :
      ∃ x, render u ℓ .nl = x ++ [10] ∧ render u (withCR ℓ) .nl = x ++ [13, 10] :=
    ⟨ℓ.lead ++ (u.hdr.render ++ (ℓ.sep ++ (renderArgs u.lits ℓ.commas ++ ℓ.trail))),
      by simp only [render, Term.byte, List.append_assoc],
      by simp only [render, withCR, Term.byte, List.append_assoc, List.cons_append,
        List.nil_append]⟩
  refine ⟨x, e2, e1, ?_⟩
  rw [← e1, ← e2]
  exact parse_render_lex_irrelevant root cur u (withCR ℓ) ℓ .nl rest hu (withCR_wf hℓ) hℓ hfit hfit

/-! ### Letter case of mnemonics -/

/-- `eq_ignore_ascii_case` is equality of the lower-cased strings. -/
theorem eqIgnoreAsciiCase_iff (a b : Bytes) :
    eqIgnoreAsciiCase a b = true ↔ a.map toLowerAscii = b.map toLowerAscii :=
  Scpi.eqIgnoreAsciiCase_iff a b

/-- Lower-casing a name gives a name that is equal ignoring case (and so does every
other change of the case of its ASCII letters: `eqIgnoreAsciiCase_iff`). -/
theorem eqIgnoreAsciiCase_map_lower (a : Bytes) :
    eqIgnoreAsciiCase a (a.map toLowerAscii) = true :=
  eqIgnoreAsciiCase_self_map toLower_toLower a

theorem eqIgnoreAsciiCase_map_upper (a : Bytes) :
    eqIgnoreAsciiCase a (a.map toUpperAscii) = true :=
  eqIgnoreAsciiCase_self_map toLower_toUpper a

/-- **Case of a mnemonic**: names that are equal ignoring ASCII case select the same
child of every node. -/
theorem child_case_insensitive (n : Node) {name name' : Bytes}
    (h : eqIgnoreAsciiCase name name' = true) : n.child name = n.child name' := by
  have e := (eqIgnoreAsciiCase_iff _ _).1 h
  unfold Node.child
  generalize n.children = cs
  induction cs with
  | nil => rfl
  | cons p cs ih =>
    obtain ⟨k, c⟩ := p
    simp only [findChild, eqIgnoreAsciiCase_eq, e, ih]

/-- Headers whose mnemonics are pairwise equal ignoring case. -/
def SameIgnoringCase : List Bytes → List Bytes → Prop
  | [], [] => True
  | m :: ms, m' :: ms' => eqIgnoreAsciiCase m m' = true ∧ SameIgnoringCase ms ms'
  | _, _ => False

/-- … walk to the same node. -/
theorem childWalk_case_insensitive : ∀ {ms ms' : List Bytes}, SameIgnoringCase ms ms' →
    ∀ n : Node, childWalk n ms = childWalk n ms'
  | [], [], _, _ => rfl
  | [], _ :: _, h, _ => absurd h id
  | _ :: _, [], h, _ => absurd h id
  | m :: ms, m' :: ms', h, n => by
    simp only [childWalk, child_case_insensitive n h.1]
    cases n.child m' with
    | none => rfl
    | some c => exact childWalk_case_insensitive h.2 c

theorem resolveFrom_case_insensitive : ∀ {ms ms' : List Bytes}, SameIgnoringCase ms ms' →
    ∀ n : Node, resolveFrom n ms = resolveFrom n ms'
  | [], [], _, _ => rfl
  | [], _ :: _, h, _ => absurd h id
  | _ :: _, [], h, _ => absurd h id
  | [m], [m'], h, n => by simp only [resolveFrom, child_case_insensitive n h.1]
  | [_], _ :: _ :: _, h, _ => absurd h.2 id
  | _ :: _ :: _, [_], h, _ => absurd h.2 id
  | m :: m₂ :: ms, m' :: m₂' :: ms', h, n => by
    simp only [resolveFrom, child_case_insensitive n h.1]
    cases n.child m' with
    | none => rfl
    | some c => exact resolveFrom_case_insensitive h.2 c

/-- Header paths that differ only in the letter case of their mnemonics. -/
def PathSameIgnoringCase : HdrPath → HdrPath → Prop
  | .compound a ms, .compound a' ms' => a = a' ∧ SameIgnoringCase ms ms'
  | .common n, .common n' => eqIgnoreAsciiCase n n' = true
  | _, _ => False

/-- **Case of the header**: paths that differ only in letter case resolve alike. -/
theorem resolve_case_insensitive (root cur : Node) {p p' : HdrPath}
    (h : PathSameIgnoringCase p p') : resolve root cur p = resolve root cur p' := by
  cases p with
  | compound a ms =>
    cases p' with
    | compound a' ms' =>
      obtain ⟨e, h⟩ := h
      subst e
      exact resolveFrom_case_insensitive h _
    | common n' => exact absurd h id
  | common n =>
    cases p' with
    | compound a' ms' => exact absurd h id
    | common n' =>
      have h' : eqIgnoreAsciiCase (42 :: n) (42 :: n') = true := by
        simp only [eqIgnoreAsciiCase, beq_self_eq_true, Bool.true_and]
        exact h
      simp only [resolve, child_case_insensitive root h']

/-! Changing the case of letters keeps a header well-formed. -/

theorem class_of_lower_eq {b b' : Nat} (h : toLowerAscii b = toLowerAscii b') :
    isAlpha b = isAlpha b' ∧ isMnemonicTail b = isMnemonicTail b' := by
  rw [← isAlpha_toLower b, ← isMnemonicTail_toLower b, h, isAlpha_toLower, isMnemonicTail_toLower]
  exact ⟨rfl, rfl⟩

theorem all_tail_of_lower_eq : ∀ {m m' : Bytes}, m.map toLowerAscii = m'.map toLowerAscii →
    m.all isMnemonicTail = m'.all isMnemonicTail := by
  intro m m' h
  have e : isMnemonicTail ∘ toLowerAscii = isMnemonicTail := funext isMnemonicTail_toLower
  rw [← e, ← List.all_map, ← List.all_map, h]

theorem isMnemonicText_case_insensitive {m m' : Bytes} (h : eqIgnoreAsciiCase m m' = true) :
    isMnemonicText m = isMnemonicText m' := by
  match m, m', (eqIgnoreAsciiCase_iff _ _).1 h with
  | [], [], _ => rfl
  | b :: m, b' :: m', e =>
    simp only [List.map_cons, List.cons.injEq] at e
    simp only [isMnemonicText, (class_of_lower_eq e.1).1, all_tail_of_lower_eq e.2]

theorem all_mnemonicText_case_insensitive : ∀ {ms ms' : List Bytes}, SameIgnoringCase ms ms' →
    ms.all isMnemonicText = ms'.all isMnemonicText ∧ ms.isEmpty = ms'.isEmpty
  | [], [], _ => ⟨rfl, rfl⟩
  | [], _ :: _, h => absurd h id
  | _ :: _, [], h => absurd h id
  | m :: ms, m' :: ms', h => by
    simp only [List.all_cons, isMnemonicText_case_insensitive h.1,
      (all_mnemonicText_case_insensitive h.2).1, List.isEmpty_cons, and_self]

/-- A header stays well-formed under a change of letter case. -/
theorem path_wf_case_insensitive {p p' : HdrPath} (h : PathSameIgnoringCase p p') :
    p.wf = p'.wf := by
  cases p with
  | compound a ms =>
    cases p' with
    | compound a' ms' =>
      obtain ⟨_, h⟩ := h
      obtain ⟨h1, h2⟩ := all_mnemonicText_case_insensitive h
      simp only [HdrPath.wf, h1, h2]
    | common n' => exact absurd h id
  | common n =>
    cases p' with
    | compound a' ms' => exact absurd h id
    | common n' => exact isMnemonicText_case_insensitive h

/-- Lower-casing (or upper-casing) every mnemonic is such a change. -/
def mapPath (f : Nat → Nat) : HdrPath → HdrPath
  | .compound a ms => .compound a (ms.map (·.map f))
  | .common n => .common (n.map f)

theorem sameIgnoringCase_map {f : Nat → Nat} (hf : ∀ m : Bytes, eqIgnoreAsciiCase m (m.map f) = true) :
    ∀ ms : List Bytes, SameIgnoringCase ms (ms.map (·.map f))
  | [] => trivial
  | m :: ms => ⟨hf m, sameIgnoringCase_map hf ms⟩

theorem mapPath_lower_same (p : HdrPath) : PathSameIgnoringCase p (mapPath toLowerAscii p) := by
  cases p with
  | compound a ms => exact ⟨rfl, sameIgnoringCase_map eqIgnoreAsciiCase_map_lower ms⟩
  | common n => exact eqIgnoreAsciiCase_map_lower n

theorem mapPath_upper_same (p : HdrPath) : PathSameIgnoringCase p (mapPath toUpperAscii p) := by
  cases p with
  | compound a ms => exact ⟨rfl, sameIgnoringCase_map eqIgnoreAsciiCase_map_upper ms⟩
  | common n => exact eqIgnoreAsciiCase_map_upper n

/-- **C11 for `parse`**: two units with the same literals and query flag whose headers
differ only in the letter case of the mnemonics, rendered with ANY white space
choices, give the same call (or the same error).  (The second unit is well-formed
because the first is: `path_wf_case_insensitive`.) -/
theorem parse_render_case_irrelevant (root cur : Node) (u₁ u₂ : MsgUnit) (ℓ₁ ℓ₂ : Lex) (t : Term)
    (rest : Bytes) (hp : PathSameIgnoringCase u₁.hdr.path u₂.hdr.path)
    (hq : u₁.hdr.query = u₂.hdr.query) (hl : u₁.lits = u₂.lits)
    (hu₁ : u₁.wf = true) (h₁ : ℓ₁.wf = true) (h₂ : ℓ₂.wf = true)
    (f₁ : ℓ₁.fits u₁ = true) (f₂ : ℓ₂.fits u₂ = true) :
    parse root cur (render u₁ ℓ₁ t ++ rest) = parse root cur (render u₂ ℓ₂ t ++ rest) := by
  have hu₂ : u₂.wf = true := by
    simp only [MsgUnit.wf, ← path_wf_case_insensitive hp, ← hl] at hu₁ ⊢
    exact hu₁
  rw [parse_render root cur u₁ ℓ₁ t rest hu₁ h₁ f₁, parse_render root cur u₂ ℓ₂ t rest hu₂ h₂ f₂,
    resolve_case_insensitive root cur hp, hq, hl]

/-- In particular the unit with all mnemonics lower-cased (or upper-cased), in any
white space, parses like the original. -/
theorem parse_render_lower (root cur : Node) (u : MsgUnit) (ℓ₁ ℓ₂ : Lex) (t : Term) (rest : Bytes)
    (hu : u.wf = true) (h₁ : ℓ₁.wf = true) (h₂ : ℓ₂.wf = true) (f₁ : ℓ₁.fits u = true)
    (f₂ : ℓ₂.fits u = true) :
    parse root cur (render u ℓ₁ t ++ rest) =
      parse root cur (render { u with hdr := { u.hdr with path := mapPath toLowerAscii u.hdr.path } }
        ℓ₂ t ++ rest) :=
  parse_render_case_irrelevant root cur u _ ℓ₁ ℓ₂ t rest (mapPath_lower_same _) rfl rfl hu h₁ h₂
    f₁ f₂

theorem parse_render_upper (root cur : Node) (u : MsgUnit) (ℓ₁ ℓ₂ : Lex) (t : Term) (rest : Bytes)
    (hu : u.wf = true) (h₁ : ℓ₁.wf = true) (h₂ : ℓ₂.wf = true) (f₁ : ℓ₁.fits u = true)
    (f₂ : ℓ₂.fits u = true) :
    parse root cur (render u ℓ₁ t ++ rest) =
      parse root cur (render { u with hdr := { u.hdr with path := mapPath toUpperAscii u.hdr.path } }
        ℓ₂ t ++ rest) :=
  parse_render_case_irrelevant root cur u _ ℓ₁ ℓ₂ t rest (mapPath_upper_same _) rfl rfl hu h₁ h₂
    f₁ f₂

/-! ### `resolve` is the walk of C01/C02 -/

/-- The path left for the next unit is the parent of the node reached: the node
reached by all mnemonics but the last. -/
theorem resolveFrom_parent : ∀ (ms : List Bytes) (p : Node),
    resolveFrom p ms = (childWalk p ms.dropLast).bind fun q =>
      ms.getLast?.bind fun m => (q.child m).map fun n => (n, some q)
  | [], _ => rfl
  | [m], p => by
    simp only [resolveFrom, List.dropLast_singleton, childWalk, Option.bind_some,
      List.getLast?_singleton]
  | m :: m' :: ms, p => by
    simp only [resolveFrom, List.dropLast_cons_cons, childWalk, List.getLast?_cons_cons]
    cases p.child m with
    | none => rfl
    | some c =>
      simp only [Option.bind_some]
      exact resolveFrom_parent (m' :: ms) c

theorem resolve_parent (root cur : Node) (a : Bool) (ms : List Bytes) :
    resolve root cur (.compound a ms) =
      (childWalk (if a then root else cur) ms.dropLast).bind fun q =>
        ms.getLast?.bind fun m => (q.child m).map fun n => (n, some q) :=
  resolveFrom_parent ms _

/-- The node a non-empty list of mnemonics designates from a start node `p` is reached
by `childWalk` (the walk to which `Scpi.C01.same_handler` refers). -/
theorem resolveFrom_node : ∀ (ms : List Bytes) (p : Node), ms ≠ [] →
    (resolveFrom p ms).map (·.1) = childWalk p ms := by
  intro ms p hne
  rw [resolveFrom_parent, ← List.dropLast_concat_getLast hne, childWalk_append,
    List.dropLast_concat, List.getLast?_concat]
  cases childWalk p ms.dropLast with
  | none => rfl
  | some q =>
    simp only [Option.bind_some]
    cases q.child (ms.getLast hne) <;> rfl

theorem resolve_node (root cur : Node) (a : Bool) (ms : List Bytes) (hne : ms ≠ []) :
    (resolve root cur (.compound a ms)).map (·.1) = childWalk (if a then root else cur) ms :=
  resolveFrom_node ms _ hne

/-- A common command is looked up at the root under its name with the asterisk and
leaves no path. -/
theorem resolve_common (root cur : Node) (n : Bytes) :
    resolve root cur (.common n) = (root.child (42 :: n)).map fun node => (node, none) := rfl

/-! ### Non-vacuity -/

/-- The tree `S:A` (command handler 0 on `A`). -/
def tree : Node := .mk 0 [([83], .mk 1 [([65], .mk 2 [] (some 0) none)] none none)] none none

/-- The unit `s:a 1,"x;y\n"`: lower-case mnemonics, a decimal and a string whose payload
contains both terminators. -/
def unit1 : MsgUnit :=
  { hdr := { path := .compound false [[115], [97]], query := false },
    lits := [.dec { sign := none, int := [49], dot := false, frac := [], exp := none },
             .str 34 [120, 59, 121, 10]] }

/-- The same unit spelled `:S:A`. -/
def unit2 : MsgUnit :=
  { unit1 with hdr := { path := .compound true [[83], [65]], query := false } }

/-- Minimal white space. -/
def lexA : Lex := { lead := [], sep := [32], commas := [], trail := [] }

/-- Plenty of white space (tabs, blanks, a NUL, CR before the terminator). -/
def lexB : Lex := { lead := [32, 9], sep := [9, 32], commas := [([32], [0, 32])], trail := [32, 13] }

example : unit1.wf = true ∧ unit2.wf = true ∧ lexA.wf = true ∧ lexB.wf = true ∧
    lexA.fits unit1 = true ∧ lexB.fits unit1 = true := by decide +kernel

/-- `s:a 1,"x;y\n";` and `  s:a  1 , "x;y\n" \r\n` as bytes. -/
example : render unit1 lexA .semi
    = [115, 58, 97, 32, 49, 44, 34, 120, 59, 121, 10, 34, 59] := by decide +kernel
example : render unit1 lexB .nl
    = [32, 9, 115, 58, 97, 9, 32, 49, 32, 44, 0, 32, 34, 120, 59, 121, 10, 34, 32, 13, 10] := by
  decide +kernel

/-- The header resolves to node 2 with path node 1. -/
example : (resolve tree tree unit1.hdr.path).map (fun nh => (nh.1.tag, nh.2.map Node.tag))
    = some (2, some 1) := by decide +kernel

/-- Both renderings deliver the same node and the same two arguments, verbatim. -/
example : ∃ c, parse tree tree (render unit1 lexA .nl ++ [88]) = .ok [88] (some c) ∧
    c.node.tag = 2 ∧ c.args = [.dec [49], .str [120, 59, 121, 10]] ∧ c.terminated = true :=
  ⟨_, parse_render tree tree unit1 lexA .nl [88] (by decide +kernel) (by decide +kernel)
    (by decide +kernel), rfl, rfl, rfl⟩
example : ∃ c, parse tree tree (render unit1 lexB .nl ++ [88]) = .ok [88] (some c) ∧
    c.node.tag = 2 ∧ c.args = [.dec [49], .str [120, 59, 121, 10]] ∧ c.terminated = true :=
  ⟨_, parse_render tree tree unit1 lexB .nl [88] (by decide +kernel) (by decide +kernel)
    (by decide +kernel), rfl, rfl, rfl⟩

/-- The hypotheses of `parse_render_case_irrelevant` hold for `s:a` against `S:A`
(relative both): -/
example : PathSameIgnoringCase unit1.hdr.path (.compound false [[83], [65]]) :=
  ⟨rfl, by decide +kernel, by decide +kernel, trivial⟩

example : mapPath toUpperAscii unit1.hdr.path = .compound false [[83], [65]] := by decide +kernel

/-- `s:b 1,"x;y\n"`: an undefined header is the `none` branch. -/
def unit3 : MsgUnit :=
  { unit1 with hdr := { path := .compound false [[115], [98]], query := false } }

example : unit3.wf = true ∧ resolve tree tree unit3.hdr.path = none ∧
    parse tree tree (render unit3 lexB .nl) = .fatal (.std .UndefinedHeader) :=
  ⟨by decide +kernel, by decide +kernel, by
    have h := parse_render tree tree unit3 lexB .nl [] (by decide +kernel) (by decide +kernel)
      (by decide +kernel)
    rwa [List.append_nil] at h⟩

/-- The white space after the header is needed when there are parameters (`fits`):
`s:a1\n` is another header. -/
example : parse tree tree [115, 58, 97, 49, 10] = .fatal (.std .UndefinedHeader) := by
  decide +kernel

end C11
end Scpi
