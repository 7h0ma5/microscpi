/-
C01 corners — a surplus level separator is never ignored.

A program header in which a `:` is not followed by a mnemonic — `A:B:⏎`, `A:;`, `A:?`,
`A::B`, `A: ⏎`, `:⏎`, or the input simply ending behind the colon — is never accepted
as the header without that colon.  `parse` answers the fatal error `UndefinedHeader`:
the compound form fails behind the colon (`program_mnemonic` does not match), the
common form, tried last, fails on the first byte (which is not `*`), and that failure
is `UndefinedHeader`.

The header text in front of the surplus colon is as general as the parser allows:
optional white space, an optional leading colon, any number `≥ 1` of mnemonics, each
level separator with its own optional white space on BOTH sides (`Sep`,
`header_separator` of parser.rs accepts `ws* ':' ws*`).  All statements hold for every
tree, every current path and every continuation; no lookup in the tree has to
succeed (when one fails the verdict is the same `UndefinedHeader`).

* `header_trailing_colon`      `… m sep c rest`, `c` neither white space nor a letter;
* `header_trailing_colon_end`  `… m sep` and the input ends;
* `header_lone_colon`, `header_lone_colon_end`   the same with no mnemonic at all
                               (a leading colon that nothing follows);
* `header_trailing_colon_plain`, `header_trailing_colon_plain_end`   restated for the
  plain spelling `HdrPath.render` of `Spec/Ast.lean` (single colons, no white space),
  with the consequence "never `.ok`" spelt out.

FINDINGS
* The simpler statement — "`pre ++ 58 :: c :: rest` is never accepted when `c` cannot
  start a mnemonic" — is FALSE for `c` white space: the separator swallows white space
  on both sides, so `S: A⏎` and `S : A⏎` are the header `S:A`
  (`colon_then_space_is_accepted`).  The true condition is on the first byte behind
  the colon AND its white space; that is what the theorems state.
* When the input ENDS behind the colon the verdict is not `incomplete` but the same
  fatal `UndefinedHeader` (`header_trailing_colon_end`; `S:` alone,
  `trailing_colon_end_is_fatal`): `command_program_header` discards the `Incomplete`
  of the compound form (`or_else`) and the common form then fails on the first byte.
  (`S` and `S:A` without terminator are `incomplete`, `no_colon_end_is_incomplete`.)
-/
import Scpi.Proofs.RenderHdr
import Scpi.Proofs.RunStepsDemo

namespace Scpi
namespace C01

theorem mnemonic_nil_not_ok (i v : Bytes) : mnemonic [] ≠ .ok i v := nofun

theorem mnemonic_cons_not_ok {c : Nat} (rest : Bytes) (hc : isAlpha c = false) (i v : Bytes) :
    mnemonic (c :: rest) ≠ .ok i v := by
  rw [mnemonic_soft rest hc]
  nofun

/-- The general form, for any `X` behind the last separator on which `mnemonic` does
not succeed and which does not begin with white space. -/
theorem header_trailing_sep (root header : Node) (w0 : Bytes) (abs : Option Bytes) (m : Bytes)
    (more : List (Sep × Bytes)) (s : Sep) (X : Bytes)
    (hw0 : allWs w0 = true) (habs : ∀ a ∈ abs, allWs a = true) (hm : isMnemonicText m = true)
    (hmore : wfSeps more = true) (hs : s.wf = true) (hXw : Ends isWs X)
    (hX : ∀ i v, mnemonic X ≠ .ok i v) :
    parse root header (w0 ++ (renderAbs abs ++ (m ++ (renderSeps more ++ (s.render ++ X))))) =
      .fatal (.std .UndefinedHeader) := by
  obtain ⟨b, r, e, hbw, h10, h42⟩ :=
    renderAbs_mnemonic_head abs hm (renderSeps more ++ (s.render ++ X))
  rw [e]
  refine parse_of_compound_not_ok root header hw0 hbw h10 h42 fun i v h => ?_
  -- the walk goes on behind the last mnemonic, takes the separator and finds no mnemonic
  rw [← e, compoundHeader_renderSeps root header habs hm hmore (ends_mnemonicTail_sep hs X)] at h
  cases hwalk : walkFrom (if abs.isSome then root else header) header (m :: more.map (·.2)) with
  | none =>
    rw [hwalk] at h
    cases h
  | some p =>
    simp only [hwalk, headerRun_eq p.1, headerSeparator_sep hs hXw] at h
    obtain ⟨i', v', hm', _⟩ := bind_eq_ok h
    exact hX i' v' hm'

/-- **A surplus level separator is never ignored.**  Header text `[ws] [: ws] m₁ sep m₂
… sep mₖ` (`k ≥ 1`; every `sep` is a colon with optional white space on both sides),
then one more separator `s`, then a byte `c` that is neither white space nor a letter
— newline, `;`, `?`, `:`, `*`, a digit, a quote, … — and anything behind it: `parse`
answers the fatal error `UndefinedHeader`, for every tree and every current path.  In
particular the unit is not accepted as the header `m₁:…:mₖ`. -/
theorem header_trailing_colon (root header : Node) (w0 : Bytes) (abs : Option Bytes) (m : Bytes)
    (more : List (Sep × Bytes)) (s : Sep) (c : Nat) (rest : Bytes)
    (hw0 : allWs w0 = true) (habs : ∀ a ∈ abs, allWs a = true) (hm : isMnemonicText m = true)
    (hmore : wfSeps more = true) (hs : s.wf = true) (hcw : isWs c = false)
    (hca : isAlpha c = false) :
    parse root header
        (w0 ++ (renderAbs abs ++ (m ++ (renderSeps more ++ (s.render ++ c :: rest))))) =
      .fatal (.std .UndefinedHeader) :=
  header_trailing_sep root header w0 abs m more s (c :: rest) hw0 habs hm hmore hs
    (ends_cons hcw) (mnemonic_cons_not_ok rest hca)

/-- **… nor when the input ends behind it**: the same header text, one more separator,
end of input.  The verdict is the same fatal `UndefinedHeader` — NOT `incomplete`
(see the findings at the top): the parser does not wait for the mnemonic. -/
theorem header_trailing_colon_end (root header : Node) (w0 : Bytes) (abs : Option Bytes)
    (m : Bytes) (more : List (Sep × Bytes)) (s : Sep)
    (hw0 : allWs w0 = true) (habs : ∀ a ∈ abs, allWs a = true) (hm : isMnemonicText m = true)
    (hmore : wfSeps more = true) (hs : s.wf = true) :
    parse root header (w0 ++ (renderAbs abs ++ (m ++ (renderSeps more ++ s.render)))) =
      .fatal (.std .UndefinedHeader) := by
  have := header_trailing_sep root header w0 abs m more s [] hw0 habs hm hmore hs
    (ends_nil _) mnemonic_nil_not_ok
  simpa only [List.append_nil] using this

/-- The general form for a header with NO mnemonic: `[ws] : [ws] X`. -/
theorem header_lone_sep (root header : Node) (w0 a X : Bytes) (hw0 : allWs w0 = true)
    (ha : allWs a = true) (hXw : Ends isWs X) (hX : ∀ i v, mnemonic X ≠ .ok i v) :
    parse root header (w0 ++ 58 :: (a ++ X)) = .fatal (.std .UndefinedHeader) :=
  parse_of_compound_not_ok root header hw0 (by decide) (by decide) (by decide) fun i v h => by
    simp only [compoundHeader, optP, headerSeparator_colon_ws ha hXw, PResult.bind] at h
    obtain ⟨i', v', hm, _⟩ := bind_eq_ok h
    exact hX i' v' hm

/-- **A leading colon that no mnemonic follows** (`:⏎`, `::X`, `:;`, `: ?`) is
`UndefinedHeader` as well … -/
theorem header_lone_colon (root header : Node) (w0 a : Bytes) (c : Nat) (rest : Bytes)
    (hw0 : allWs w0 = true) (ha : allWs a = true) (hcw : isWs c = false)
    (hca : isAlpha c = false) :
    parse root header (w0 ++ 58 :: (a ++ c :: rest)) = .fatal (.std .UndefinedHeader) :=
  header_lone_sep root header w0 a (c :: rest) hw0 ha (ends_cons hcw)
    (mnemonic_cons_not_ok rest hca)

/-- … also when the input ends behind it. -/
theorem header_lone_colon_end (root header : Node) (w0 a : Bytes) (hw0 : allWs w0 = true)
    (ha : allWs a = true) :
    parse root header (w0 ++ 58 :: a) = .fatal (.std .UndefinedHeader) := by
  have := header_lone_sep root header w0 a [] hw0 ha (ends_nil _) mnemonic_nil_not_ok
  simpa only [List.append_nil] using this

/-! ### The plain spelling of `Spec/Ast.lean` -/

theorem render_compound_plain (a : Bool) (m : Bytes) (ms : List Bytes) :
    (HdrPath.compound a (m :: ms)).render =
      renderAbs (if a then some [] else none) ++ (m ++ renderSeps (plainSeps ms)) :=
  render_compound a m ms

/-- `header_trailing_sep` for the plain spelling `HdrPath.render` followed by a colon and white
space. -/
theorem parse_plain_trailing_colon (root header : Node) (a : Bool) {ms : List Bytes} {ws : Bytes}
    (X : Bytes) (hp : (HdrPath.compound a ms).wf = true) (hws : allWs ws = true) (hXw : Ends isWs X)
    (hX : ∀ i v, mnemonic X ≠ .ok i v) :
    parse root header ((HdrPath.compound a ms).render ++ 58 :: (ws ++ X)) =
      .fatal (.std .UndefinedHeader) := by
  obtain ⟨m, ms, rfl, hm, hms⟩ := HdrPath.compound_wf hp
  have h := header_trailing_sep root header [] _ m (plainSeps ms) ⟨[], ws⟩ X rfl (allWs_abs_plain a)
    hm (wfSeps_plain hms) (Bool.and_eq_true_iff.mpr ⟨rfl, hws⟩) hXw hX
  simpa only [render_compound, Sep.render, List.nil_append, List.append_assoc,
    List.cons_append] using h

/-- **For the plain spelling**: `pre` the rendering `[:]m₁:m₂:…:mₖ` of a well-formed
compound header path (`k ≥ 1`, single colons), then a colon, optional white space `ws`,
and a byte `c` that is neither white space nor a letter: never `.ok` — precisely,
`UndefinedHeader`. -/
theorem header_trailing_colon_plain (root header : Node) (a : Bool) (ms : List Bytes)
    (ws : Bytes) (c : Nat) (rest : Bytes) (hp : (HdrPath.compound a ms).wf = true)
    (hws : allWs ws = true) (hcw : isWs c = false) (hca : isAlpha c = false) :
    parse root header ((HdrPath.compound a ms).render ++ 58 :: (ws ++ c :: rest)) =
        .fatal (.std .UndefinedHeader) ∧
    ∀ r v, parse root header ((HdrPath.compound a ms).render ++ 58 :: (ws ++ c :: rest)) ≠
        .ok r v := by
  have h := parse_plain_trailing_colon root header a (c :: rest) hp hws (ends_cons hcw)
    (mnemonic_cons_not_ok rest hca)
  exact ⟨h, fun _ _ hh => by rw [h] at hh; cases hh⟩

/-- … and when the input ends behind the colon (and its white space): never `.ok`,
and not `incomplete` either. -/
theorem header_trailing_colon_plain_end (root header : Node) (a : Bool) (ms : List Bytes)
    (ws : Bytes) (hp : (HdrPath.compound a ms).wf = true) (hws : allWs ws = true) :
    parse root header ((HdrPath.compound a ms).render ++ 58 :: ws) =
        .fatal (.std .UndefinedHeader) ∧
    ∀ r v, parse root header ((HdrPath.compound a ms).render ++ 58 :: ws) ≠ .ok r v := by
  have h := parse_plain_trailing_colon root header a [] hp hws (ends_nil _) mnemonic_nil_not_ok
  rw [List.append_nil] at h
  exact ⟨h, fun _ _ hh => by rw [h] at hh; cases hh⟩

/-! ### Non-vacuity and witnesses (demo tree: `X`, `S:A`, `S:B`, `*C`, `T`, `F`) -/

/-- `S:A:⏎` — the defined header `S:A` with a surplus colon. -/
example : parse Demo.tree Demo.tree [83, 58, 65, 58, 10] = .fatal (.std .UndefinedHeader) :=
  (header_trailing_colon_plain Demo.tree Demo.tree false [[83], [65]] [] 10 [] (by decide +kernel)
    (by decide +kernel) (by decide +kernel) (by decide +kernel)).1

/-- ` : S :A : ;X⏎` — white space everywhere the syntax allows it. -/
example : parse Demo.tree Demo.nS [32, 58, 32, 83, 32, 58, 65, 32, 58, 32, 59, 88, 10] =
    .fatal (.std .UndefinedHeader) :=
  header_trailing_colon Demo.tree Demo.nS [32] (some [32]) [83] [(⟨[32], []⟩, [65])]
    ⟨[32], [32]⟩ 59 [88, 10] (by decide) (by decide) (by decide) (by decide) (by decide)
    (by decide) (by decide)

/-- The verdicts computed directly: `S:A:⏎`, `X:?⏎`, `S::A⏎`, `:⏎`. -/
example : parse Demo.tree Demo.tree [83, 58, 65, 58, 10] = .fatal (.std .UndefinedHeader) ∧
    parse Demo.tree Demo.tree [88, 58, 63, 10] = .fatal (.std .UndefinedHeader) ∧
    parse Demo.tree Demo.tree [83, 58, 58, 65, 10] = .fatal (.std .UndefinedHeader) ∧
    parse Demo.tree Demo.tree [58, 10] = .fatal (.std .UndefinedHeader) := by decide +kernel

/-- FINDING: white space behind the colon does not make it surplus: `S: A⏎` and
`S : A⏎` are accepted, as the header `S:A` (node 3). -/
theorem colon_then_space_is_accepted :
    (parse Demo.tree Demo.tree [83, 58, 32, 65, 10]).isOk = true ∧
    (parse Demo.tree Demo.tree [83, 32, 58, 32, 65, 10]).isOk = true ∧
    (match parse Demo.tree Demo.tree [83, 58, 32, 65, 10] with
     | .ok r (some call) => r == [] && call.node.tag == 3
     | _ => false) = true := by decide +kernel

/-- FINDING: `S:` and the input ends: fatal `UndefinedHeader`, not `incomplete` … -/
theorem trailing_colon_end_is_fatal :
    parse Demo.tree Demo.tree [83, 58] = .fatal (.std .UndefinedHeader) :=
  (header_trailing_colon_plain_end Demo.tree Demo.tree false [[83]] [] (by decide) (by decide)).1

/-- … whereas `S` and `S:A` without a terminator are `incomplete`. -/
theorem no_colon_end_is_incomplete :
    parse Demo.tree Demo.tree [83] = .incomplete ∧
    parse Demo.tree Demo.tree [83, 58, 65] = .incomplete := ⟨rfl, rfl⟩

end C01
end Scpi
