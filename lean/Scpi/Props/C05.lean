/-
C05 — no input can crash or hang the interpreter (`run` part; the `process`
part is in `Scpi/Props/C05Process.lean`).

Every site where the Rust code can panic (slice bounds, `usize` subtraction,
`unwrap`) or spin (a loop iteration that consumes nothing) is an explicit
`crash` outcome of the model; these theorems show it is unreachable for every
tree, every handler table, every writer and every byte string.
-/
import Scpi.Proofs.RunSteps

namespace Scpi
namespace C05

/-- **T5.1 (parser)**: `parse` never crashes, for every tree, start node and input. -/
theorem parse_no_crash (root header : Node) (input : Bytes) (c : Crash) :
    parse root header input ≠ .crash c :=
  (parse_strict root header input).noCrash c

/-- **T5.2 (parser)**: what `parse` returns is a suffix of its input, and an accepted
unit or empty message consumed at least one byte — so the loop of `run` terminates. -/
theorem parse_rest_suffix (root header : Node) (input rest : Bytes) (call : Option CommandCall)
    (h : parse root header input = .ok rest call) : rest <:+ input ∧ rest.length < input.length :=
  ⟨(parse_strict root header input).suffix _ _ h, (parse_strict root header input).lt _ _ h⟩

/-- **T5.1 (dispatcher)**: executing a unit never crashes: `args.get(i).unwrap()` is
guarded by the arity check; a failing response write is an error, not a panic. -/
theorem execute_never_crashes {σ : Type} (I : Iface σ) (call : CommandCall) (w : Writer) (s : σ)
    (c : Crash) : (execute I call w s).2.2 ≠ .crash c :=
  execute_no_crash I call w s c

/-- **T5.1/T5.2 (`run`)**: for every interface (tree, handlers, error handler), every
byte string, every writer (any capacity, including 0) and user state, `run` neither
crashes nor runs out of fuel (every iteration consumes input) … -/
theorem run_never_crashes {σ : Type} (I : Iface σ) (input : Bytes) (w : Writer) (s : σ) :
    (run I input w s).crash = none :=
  (runFrom_good I I.root input w s).1

/-- … and returns a suffix of the buffer it was given. -/
theorem run_returns_suffix {σ : Type} (I : Iface σ) (input : Bytes) (w : Writer) (s : σ) :
    (run I input w s).rest <:+ input :=
  (runFrom_good I I.root input w s).2

/-- The same from any header path (what `process` calls). -/
theorem runFrom_never_crashes {σ : Type} (I : Iface σ) (header : Node) (input : Bytes)
    (w : Writer) (s : σ) :
    (runFrom I header input w s).crash = none ∧ (runFrom I header input w s).rest <:+ input :=
  runFrom_good I header input w s

/-- Non-vacuity: a concrete run on a tree with one command, with a writer of capacity 0. -/
example :
    let tree : Node := .mk 0 [([88], .mk 1 [] (some 0) none)] none none
    let I : Iface Unit := { root := tree,
                            cmds := [{ argTys := [], handler := fun s _ => (s, .ok .unit) }],
                            onError := fun s _ => s }
    (run I [88, 10, 33] { cap := some 0 } ()).rest = [33] := by decide +kernel

end C05
end Scpi
