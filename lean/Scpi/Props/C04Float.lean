/-
C04 — the float formatter contract.

`Scpi/Props/C04.lean` proves the response round trip `decode_encode` under the hypothesis
`FloatsOk r` (`FloatTextOk` for every finite float in the value; the driver also evaluates it
on every float the implementation prints).  This file proves the contract for binary32 and
binary64:

* `floatText_ok`: for every finite bit pattern of the format's width (both signs, ±0,
  sub-normals, powers of two with their asymmetric rounding interval, the largest finite
  value), the text printed by `Display` (`floatText`: Rust's `flt2dec` Dragon strategy
  `format_shortest` + `digits_to_dec_str`) is a plain decimal and `str::parse`
  (`parseFloat`: nearest, ties to even) reads it back to exactly the same bits.
* `decode_encode_floats`: hence the round trip `decode ty r.encode = some r` holds without
  `FloatsOk`, for values whose float leaves are patterns of the right width
  (`FloatsInRange`; the model's `Resp.f32 bits` carries an unconstrained `Nat`, and a
  pattern with bits beyond the width prints like its truncation —
  `floats_out_of_range_witness`).

The proof is the containment half of the classical correctness argument of the free-format
algorithm (Steele–White / Burger–Dybvig): the digits denote a number inside the rounding
interval, which is what the round trip needs; that they are the shortest such digits is not
proved.  It is in `Scpi/Proofs/Dragon*.lean`: the digit loop and the final round-up keep the
decimal inside the scaled interval, within the fuel (`DragonDigits`); the integer `log10`
estimate is at most one too small, by a table checked by kernel evaluation, and sub-normals,
for which `decode` always reports an inclusive interval, never print an end of it
(`DragonScale`); the interval is bounded by the midpoints to the neighbouring floats, and
anything between the midpoints rounds back (`DragonRound`); the text layer (`DragonText`);
assembly and the sign bit (`DragonFinal`).
-/
import Scpi.Props.C03
import Scpi.Props.C04
import Scpi.Proofs.DragonFinal

namespace Scpi
namespace C04
open Dragon (SmallFmt roundtrip_signed floatText_eq Plain renderBody_shape isPlainDecimal_of_plain
  parseFloat_of_plain)

theorem smallFmt_of (f : FloatFmt) (hf : f = fmt32 ∨ f = fmt64) : SmallFmt f := by
  rcases hf with rfl | rfl
  · exact ⟨by decide, by decide, by decide⟩
  · exact ⟨by decide, by decide, by decide⟩

/-- **Shape and value of the printed digits** (any finite non-zero pattern of the width):
`formatShortest` returns a non-empty list of decimal digits, and the decimal they denote,
`digitsValue ds · 10^(k - length ds)`, is rounded by `roundRat` (nearest, ties to even) to
the magnitude `bits % signBit` of the pattern. -/
theorem formatShortest_roundtrips (f : FloatFmt) (hf : f = fmt32 ∨ f = fmt64) (bits : Nat)
    (hfin : f.expOf bits ≠ f.expMax) (hnz : ¬ (f.expOf bits = 0 ∧ f.fracOf bits = 0)) :
    (formatShortest f bits).1 ≠ [] ∧ (∀ d ∈ (formatShortest f bits).1, d < 10) ∧
    roundRat f
      (C03.digitsValue 10 (formatShortest f bits).1 *
        10 ^ ((formatShortest f bits).2 - ((formatShortest f bits).1.length : Nat)).toNat)
      (10 ^ ((((formatShortest f bits).1.length : Nat) : Int) - (formatShortest f bits).2).toNat) =
      bits % f.signBit :=
  roundtrip_signed f (smallFmt_of f hf) bits hfin hnz

/-- **The formatter contract holds for every finite float.**  For binary32 and binary64
and EVERY finite bit pattern of the format's width — either sign, ±0, sub-normal, normal,
powers of two, the largest finite value — the text `Display` prints is a plain decimal
(optional `-`, digits, optionally `.` and digits; no exponent) and `str::parse` reads it
back to exactly the same bit pattern. -/
theorem floatText_ok (f : FloatFmt) (hf : f = fmt32 ∨ f = fmt64) (bits : Nat)
    (hw : bits < 2 * f.signBit) (hfin : f.expOf bits ≠ f.expMax) : FloatTextOk f bits := by
  have hsplit := C03.split_sign f bits hw
  have hs := C03.roundDec_shortcuts_sound f hf
  unfold FloatTextOk
  rw [floatText_eq]
  by_cases hz : f.expOf bits = 0 ∧ f.fracOf bits = 0
  · -- the texts `0` and `-0`
    have h0 : Plain [48] [48] [] :=
      ⟨C03.allDigits_zeros 1, C03.allDigits_nil, by simp, Or.inl ⟨rfl, rfl⟩⟩
    rw [if_pos hz]
    rw [(C03.fields_zero_iff f bits).mp hz] at hsplit
    refine ⟨isPlainDecimal_of_plain _ h0, ?_⟩
    rw [parseFloat_of_plain f hs _ h0]
    show some (roundRat f 0 _ + _) = _
    rw [C03.roundRat_zero_num, ← hsplit]
  · rw [if_neg hz]
    obtain ⟨hne, hdig, hround⟩ := formatShortest_roundtrips f hf bits hfin hz
    obtain ⟨ip, fp, h, hv, hl⟩ := renderBody_shape _ _ hne hdig
    refine ⟨isPlainDecimal_of_plain _ h, ?_⟩
    rw [parseFloat_of_plain f hs _ h, hv, hl, hround, ← hsplit]

theorem floatText_plain (f : FloatFmt) (hf : f = fmt32 ∨ f = fmt64) (bits : Nat)
    (hw : bits < 2 * f.signBit) (hfin : f.expOf bits ≠ f.expMax) :
    isPlainDecimal (floatText f bits) = true := (floatText_ok f hf bits hw hfin).1

theorem floatText_parses_back (f : FloatFmt) (hf : f = fmt32 ∨ f = fmt64) (bits : Nat)
    (hw : bits < 2 * f.signBit) (hfin : f.expOf bits ≠ f.expMax) :
    parseFloat f (floatText f bits) = some bits := (floatText_ok f hf bits hw hfin).2

/-- The hypotheses of `floatText_ok` hold for `-0.15625` (binary32), the smallest binary64
sub-normal, `-0`, `1.0` (a power of two) and the largest finite binary64. -/
example : FloatTextOk fmt32 0xbe200000 ∧ FloatTextOk fmt64 1 ∧ FloatTextOk fmt64 (2 ^ 63) ∧
    FloatTextOk fmt64 0x3ff0000000000000 ∧ FloatTextOk fmt64 0x7fefffffffffffff :=
  ⟨floatText_ok _ (Or.inl rfl) _ (by decide) (by decide),
   floatText_ok _ (Or.inr rfl) _ (by decide) (by decide),
   floatText_ok _ (Or.inr rfl) _ (by decide) (by decide),
   floatText_ok _ (Or.inr rfl) _ (by decide) (by decide),
   floatText_ok _ (Or.inr rfl) _ (by decide) (by decide)⟩

/-! ### The response round trip without `FloatsOk` -/

/-- Float leaves are bit patterns of the width of their type. -/
def LeafInRange : Resp → Prop
  | .f32 b => b < 2 ^ 32
  | .f64 b => b < 2 ^ 64
  | _ => True

/-- Every float in the value is a 32-bit (`f32`) / 64-bit (`f64`) pattern. -/
def FloatsInRange (r : Resp) : Prop := r.All LeafInRange

theorem finite_of_flags (f : FloatFmt) (b : Nat) (h1 : f.isNan b = false) (h2 : f.isInf b = false) :
    f.expOf b ≠ f.expMax := by
  intro h
  unfold FloatFmt.isNan at h1
  unfold FloatFmt.isInf at h2
  rw [h] at h1 h2
  simp at h1 h2
  exact h2 h1

/-- `FloatsOk` — the hypothesis of `decode_encode` — holds for every value whose floats are
patterns of the right width. -/
theorem floatsOk_of_inRange (r : Resp) (h : FloatsInRange r) : FloatsOk r := by
  refine all_mono (fun x hx => ?_) r h
  -- `2 * signBit` is `2^32` resp. `2^64` by evaluation
  cases x with
  | f32 b => exact fun h1 h2 => floatText_ok fmt32 (.inl rfl) b hx (finite_of_flags _ _ h1 h2)
  | f64 b => exact fun h1 h2 => floatText_ok fmt64 (.inr rfl) b hx (finite_of_flags _ _ h1 h2)
  | _ => trivial

/-- **T4.1 with floats, without `FloatsOk`.**  Decoding the response text yields
exactly the value the handler returned, for every well-formed value (finite floats, …) of
every well-formed shape, floats included — provided the float leaves are patterns of their
type's width (which every Rust `f32`/`f64` is; see `floats_out_of_range_witness`). -/
theorem decode_encode_floats (r : Resp) (ty : RespTy) (hw : r.WF) (hr : FloatsInRange r)
    (ht : HasTy r ty) (hty : ty.WF = true) : decode ty r.encode = some r :=
  decode_encode r ty hw ht hty (floatsOk_of_inRange r hr)

/-- The hypotheses of `decode_encode_floats` are satisfiable on a value with floats of both
widths — `1.5`, `-0.15625`, the smallest sub-normal `5e-324` and `-0` — and the theorem then
gives the round trip without evaluating the formatter. -/
example : decode (.seq [.f64, .f32, .f64, .f64])
    (Resp.seq [.f64 0x3ff8000000000000, .f32 0xbe200000, .f64 1, .f64 (2 ^ 63)]).encode =
    some (.seq [.f64 0x3ff8000000000000, .f32 0xbe200000, .f64 1, .f64 (2 ^ 63)]) :=
  decode_encode_floats _ _
    (by simp only [Resp.WF, Resp.All, Resp.AllL, Resp.LeafWF]; decide +kernel)
    (by simp only [FloatsInRange, Resp.All, Resp.AllL, LeafInRange]; decide +kernel)
    (.tuple (.cons (.f64 _) (.cons (.f32 _) (.cons (.f64 _) (.cons (.f64 _) .nil)))))
    (by decide +kernel)

/-- **Finding (model level).**  `Resp.f32 bits` carries an arbitrary natural number, and
`Resp.WF` only asks that it is not NaN/infinite.  A "pattern" with bits beyond the width is
printed like its truncation: `Resp.f32 (2^32)` is well formed, prints `0` and decodes to
`Resp.f32 0`.  So `FloatTextOk` fails for it and the round trip needs `FloatsInRange`
(no Rust `f32`/`f64` value is out of range; the condition only constrains the model). -/
theorem floats_out_of_range_witness :
    (Resp.f32 (2 ^ 32)).WF ∧ HasTy (.f32 (2 ^ 32)) .f32 ∧ RespTy.f32.WF = true ∧
    decode .f32 (Resp.f32 (2 ^ 32)).encode = some (.f32 0) ∧ ¬ FloatTextOk fmt32 (2 ^ 32) :=
  ⟨by simp [Resp.WF, Resp.All, Resp.LeafWF]; decide, .f32 _, rfl, rfl, by decide⟩

/-- … hence the round trip is FALSE without a width condition on float leaves. -/
theorem decode_encode_needs_range :
    ¬ ∀ (r : Resp) (ty : RespTy), r.WF → HasTy r ty → ty.WF = true → decode ty r.encode = some r := by
  intro h
  obtain ⟨h1, h2, h3, h4, -⟩ := floats_out_of_range_witness
  have := h _ _ h1 h2 h3
  rw [h4] at this
  have := Resp.f32.inj (Option.some.inj this)
  exact absurd this (by decide)

end C04
end Scpi
