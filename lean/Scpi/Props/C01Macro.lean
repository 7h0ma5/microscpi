/-
C01 (macro half) — "… a program header invokes a handler if and only if each of its
mnemonics equals, ignoring ASCII case, the short form (…) or the long form (…) of the
corresponding declared node, with optional nodes present or omitted and the
query mark matching the declaration; every such spelling invokes the same
handler …".

The run-time walks the static tree with `Node.child` (first child whose key
equals the mnemonic ignoring ASCII case, microscpi/src/tree.rs).  This file
relates that walk (`childWalk`) on the tree emitted by the macro
(`insertAll emptyNode cmds 0`) to the declarations.  The idea: every key the macro emits
is free of lower-case letters (`tree_keysOk`), so the case-insensitive first match is the
exact lookup of the upper-cased mnemonic (`childWalk_eq_walk`), and C14's `lookup_iff` applies
to the upper-cased header (`child_walk_iff`); `invokes_iff` restates this on the mnemonics as
typed.  That sibling keys are also distinct (`tree_keysOk`) makes the child found independent
of the order in which the macro emits the children (`child_unique`).
-/
import Scpi.Props.C14
import Scpi.Proofs.MacroKeys
import Scpi.Proofs.DeclText

namespace Scpi
namespace C01

open C14

def upperPath (ns : List Bytes) : List Bytes := ns.map (·.map toUpperAscii)

/-- Keys produced by `Command::try_from` contain no lower-case ASCII letter: the
short form drops them, the long form upper-cases them. -/
theorem parse_keys_no_lowercase {s : Bytes} {c : Command} (h : Command.parse s = .ok c) :
    ∀ part ∈ c.parts, ∀ b ∈ part.short ++ part.long, isLowerAscii b = false := by
  intro part hpart b hb
  obtain ⟨h1, h2⟩ := parse_partsLowerFree h part hpart
  rcases List.mem_append.1 hb with hb | hb
  · exact h1 b hb
  · exact h2 b hb

example : ∃ c, Command.parse (C14.b "SYSTem:ERRor:[NEXT]?") = .ok c ∧ c.parts.length = 3 :=
  ⟨_, C14.parse_systErrNext, rfl⟩

/-- `str::eq_ignore_ascii_case` compares the lower-cased strings. -/
theorem eqIgnoreAsciiCase_spec (k name : Bytes) :
    eqIgnoreAsciiCase k name = (k.map toLowerAscii == name.map toLowerAscii) :=
  eqIgnoreAsciiCase_eq k name

/-- A key without lower-case letters matches `name` ignoring case iff it is `name`
upper-cased. -/
theorem eqIgnoreAsciiCase_iff_upper {k : Bytes} (hk : ∀ b ∈ k, isLowerAscii b = false)
    (name : Bytes) : eqIgnoreAsciiCase k name = true ↔ k = name.map toUpperAscii :=
  Scpi.eqIgnoreAsciiCase_iff_upper hk name

/-- Two keys without lower-case letters that match the same mnemonic are equal:
the run-time cannot be confused between two siblings. -/
theorem eqIgnoreAsciiCase_unique {k₁ k₂ name : Bytes} (h₁ : ∀ b ∈ k₁, isLowerAscii b = false)
    (h₂ : ∀ b ∈ k₂, isLowerAscii b = false) (e₁ : eqIgnoreAsciiCase k₁ name = true)
    (e₂ : eqIgnoreAsciiCase k₂ name = true) : k₁ = k₂ := by
  rw [(eqIgnoreAsciiCase_iff_upper h₁ name).1 e₁, (eqIgnoreAsciiCase_iff_upper h₂ name).1 e₂]

example : eqIgnoreAsciiCase (C14.b "SYST") (C14.b "sYsT") = true ∧
    eqIgnoreAsciiCase (C14.b "SYST") (C14.b "SYS7") = false := by
  repeat rewrite [C14.b_ofList]
  decide +kernel

/-- The tree emitted for declarations with lower-case-free parts (in particular
parsed ones) satisfies the key invariant: every key lower-case-free, sibling keys
pairwise distinct (`insertChild` appends a key only when no sibling has it). -/
theorem tree_keysOk {cmds : List Command} {t : Node} (hcmds : ∀ c ∈ cmds, PartsLowerFree c)
    (h : insertAll emptyNode cmds 0 = .ok t) : KeysOk t :=
  insertAll_keysOk hcmds (keysOk_empty 0 none none) h

/-- In a tree with the key invariant the run-time's child lookup (first match
ignoring case) is the exact lookup of the upper-cased mnemonic. -/
theorem findChild_eq_exact {n : Node} (hn : KeysOk n) (name : Bytes) :
    n.child name = lookupKey n.children (name.map toUpperAscii) :=
  findChild_eq_lookupKey hn.chOk.1 name

/-- … and that child is the unique one stored under the upper-cased mnemonic. -/
theorem child_unique {n : Node} (hn : KeysOk n) (name : Bytes) (c : Node) :
    n.child name = some c ↔ (name.map toUpperAscii, c) ∈ n.children := by
  rw [findChild_eq_exact hn]
  exact lookupKey_eq_some_iff hn.chOk.2.1

/-- The run-time walk along the mnemonics `ns` is the exact walk along the
upper-cased mnemonics. -/
theorem childWalk_eq_walk {n : Node} (hn : KeysOk n) (ns : List Bytes) :
    childWalk n ns = walk n (upperPath ns) := by
  induction ns generalizing n with
  | nil => rfl
  | cons name ns ih =>
    simp only [childWalk, upperPath, List.map_cons, walk]
    rw [findChild_eq_exact hn]
    cases hl : lookupKey n.children (name.map toUpperAscii) with
    | none => rfl
    -- (the direction of `lookupKey_eq_some_iff` that does not need the keys distinct)
    | some c => exact ih (hn.chOk.2.2 _ ((lookupKey_eq_some_iff hn.chOk.2.1).1 hl))

/-- Walking the compiled tree with `Node.child` along the mnemonics `ns` reaches a
node whose slot of kind `q` holds `i` iff the upper-cased header is a spelling of
declaration `i`, which has kind `q`. -/
theorem child_walk_iff {cmds : List Command} {t : Node} (hcmds : ∀ c ∈ cmds, PartsLowerFree c)
    (h : insertAll emptyNode cmds 0 = .ok t) (ns : List Bytes) (q : Bool) (i : Nat) :
    (childWalk t ns).bind (slot q) = some i ↔
      ∃ c, cmds[i]? = some c ∧ c.query = q ∧ Spells c (upperPath ns) := by
  rw [childWalk_eq_walk (tree_keysOk hcmds h), lookup_iff h]

/-- For lower-case-free parts, a header matches the parts (as typed, ignoring case)
iff its upper-cased form is a spelling. -/
theorem headerMatches_iff_expands {ps : List Part}
    (hps : ∀ part ∈ ps, LowerFree part.short ∧ LowerFree part.long) (ns : List Bytes) :
    HeaderMatches ps ns ↔ Expands ps (upperPath ns) := by
  rw [← headerMatchesB_iff, ← expandsB_iff, headerMatchesB_eq_expandsB hps, upperPath]

/-- C01, macro half: in the compiled tree, the header with mnemonics `ns` and
query mark `q` reaches handler `i` iff declaration `i` has kind `q` and every
mnemonic equals, ignoring ASCII case, the short or the long form of the
corresponding declared node, optional nodes being present or omitted. -/
theorem invokes_iff {cmds : List Command} {t : Node} (hcmds : ∀ c ∈ cmds, PartsLowerFree c)
    (h : insertAll emptyNode cmds 0 = .ok t) (ns : List Bytes) (q : Bool) (i : Nat) :
    (childWalk t ns).bind (slot q) = some i ↔
      ∃ c, cmds[i]? = some c ∧ c.query = q ∧ HeaderMatches c.parts ns := by
  rw [child_walk_iff hcmds h]
  exact exists_congr fun c => and_congr_right fun hc => and_congr_right fun _ =>
    (headerMatches_iff_expands (hcmds c (List.mem_of_getElem? hc)) ns).symm

/-- The same for declarations given as strings that `Command::try_from` accepts. -/
theorem invokes_iff_parsed {cmds : List Command} {t : Node}
    (hparse : ∀ c ∈ cmds, ∃ s, Command.parse s = .ok c)
    (h : insertAll emptyNode cmds 0 = .ok t) (ns : List Bytes) (q : Bool) (i : Nat) :
    (childWalk t ns).bind (slot q) = some i ↔
      ∃ c, cmds[i]? = some c ∧ c.query = q ∧ HeaderMatches c.parts ns := by
  refine invokes_iff ?_ h ns q i
  intro c hc
  obtain ⟨s, hs⟩ := hparse c hc
  exact parse_partsLowerFree hs

/-- Every such spelling invokes the same handler: any header matching declaration
`i` (any mix of short/long forms, any letter case, optional nodes in or out)
reaches id `i` in the slot of the declaration's kind — and therefore no other id. -/
theorem same_handler {cmds : List Command} {t : Node} (hcmds : ∀ c ∈ cmds, PartsLowerFree c)
    (h : insertAll emptyNode cmds 0 = .ok t) {i : Nat} {c : Command} (hi : cmds[i]? = some c)
    {ns : List Bytes} (hm : HeaderMatches c.parts ns) :
    (childWalk t ns).bind (slot c.query) = some i :=
  (invokes_iff hcmds h ns c.query i).2 ⟨c, hi, rfl, hm⟩

/-- A header that matches no declaration of the requested kind reaches no handler. -/
theorem no_match_no_handler {cmds : List Command} {t : Node}
    (hcmds : ∀ c ∈ cmds, PartsLowerFree c) (h : insertAll emptyNode cmds 0 = .ok t)
    (ns : List Bytes) (q : Bool)
    (hno : ∀ c ∈ cmds, c.query = q → ¬ HeaderMatches c.parts ns) :
    (childWalk t ns).bind (slot q) = none := by
  cases hr : (childWalk t ns).bind (slot q) with
  | none => rfl
  | some i =>
    obtain ⟨c, hc, hq, hm⟩ := (invokes_iff hcmds h ns q i).1 hr
    exact absurd hm (hno c (List.mem_of_getElem? hc) hq)

/-- `SYSTem:ERRor:[NEXT]?` and `SYSTem:ERRor:COUNt?`. -/
def errDecls : List Command := C14.decls ["SYSTem:ERRor:[NEXT]?", "SYSTem:ERRor:COUNt?"]

theorem errDecls_eq : errDecls =
    [⟨[⟨false, C14.b "SYST", C14.b "SYSTEM"⟩, ⟨false, C14.b "ERR", C14.b "ERROR"⟩,
        ⟨true, C14.b "NEXT", C14.b "NEXT"⟩], true⟩,
     ⟨[⟨false, C14.b "SYST", C14.b "SYSTEM"⟩, ⟨false, C14.b "ERR", C14.b "ERROR"⟩,
        ⟨false, C14.b "COUN", C14.b "COUNT"⟩], true⟩] := by
  rw [errDecls, C14.decls_cons_ok C14.parse_systErrNext, C14.decls_cons_ok C14.parse_systErrCount]
  rfl

example : errDecls =
    [⟨[⟨false, C14.b "SYST", C14.b "SYSTEM"⟩, ⟨false, C14.b "ERR", C14.b "ERROR"⟩,
        ⟨true, C14.b "NEXT", C14.b "NEXT"⟩], true⟩,
     ⟨[⟨false, C14.b "SYST", C14.b "SYSTEM"⟩, ⟨false, C14.b "ERR", C14.b "ERROR"⟩,
        ⟨false, C14.b "COUN", C14.b "COUNT"⟩], true⟩] := errDecls_eq

theorem errDecls_lowerFree : ∀ c ∈ errDecls, PartsLowerFree c :=
  C14.decls_lowerFree _

theorem errDecls_compile : ∃ t, insertAll emptyNode errDecls 0 = .ok t := by
  rw [errDecls, C14.decls_cons_ok C14.parse_systErrNext_bytes,
    C14.decls_cons_ok C14.parse_systErrCount_bytes]
  exact (compiles_iff_pairwise _).2 (by decide +kernel)

/-- In the tree compiled from them, `syst:err?`, `SYSTem:ERRor:NEXT?` and
`system:error:next?` all invoke declaration 0; `Syst:Error:Coun?` invokes
declaration 1; `SYST:ERR` (no query mark), `SYST:ERRO?` and `SYST?` invoke nothing. -/
example (t : Node) (h : insertAll emptyNode errDecls 0 = .ok t) :
    (childWalk t [C14.b "syst", C14.b "err"]).bind (slot true) = some 0 ∧
    (childWalk t [C14.b "SYSTem", C14.b "ERRor", C14.b "NEXT"]).bind (slot true) = some 0 ∧
    (childWalk t [C14.b "system", C14.b "error", C14.b "next"]).bind (slot true) = some 0 ∧
    (childWalk t [C14.b "Syst", C14.b "Error", C14.b "Coun"]).bind (slot true) = some 1 ∧
    (childWalk t [C14.b "SYST", C14.b "ERR"]).bind (slot false) = none ∧
    (childWalk t [C14.b "SYST", C14.b "ERRO"]).bind (slot true) = none ∧
    (childWalk t [C14.b "SYST"]).bind (slot true) = none := by
  have hlf := errDecls_lowerFree
  rw [errDecls, C14.decls_cons_ok C14.parse_systErrNext_bytes,
    C14.decls_cons_ok C14.parse_systErrCount_bytes] at h hlf
  refine ⟨?_, ?_, ?_, ?_, ?_, ?_, ?_⟩
  all_goals repeat rewrite [C14.b_ofList]
  · exact same_handler hlf h (i := 0) rfl (by decide +kernel)
  · exact same_handler hlf h (i := 0) rfl (by decide +kernel)
  · exact same_handler hlf h (i := 0) rfl (by decide +kernel)
  · exact same_handler hlf h (i := 1) rfl (by decide +kernel)
  · exact no_match_no_handler hlf h _ _ (by decide +kernel)
  · exact no_match_no_handler hlf h _ _ (by decide +kernel)
  · exact no_match_no_handler hlf h _ _ (by decide +kernel)

end C01
end Scpi
