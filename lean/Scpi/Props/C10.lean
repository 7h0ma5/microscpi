/-
C10 — "process writes and flushes the response to a message before it asks the
transport for more input, so a controller that waits for an answer before sending its
next command is never deadlocked; it writes nothing for a message that produced no
response and never writes anything other than query responses.  It never returns Ok:
it ends only by returning, unchanged and at once - with no further transport call - the
first error that the transport's read, write or flush returns."

`Scpi.process I n sc s` (Scpi/Process.lean) runs `Interface::process::<N, A>` against a
scripted adapter: a byte stream, the sizes of the successive reads, and optionally a
fault `(k, code)` — adapter call number `k` (counting from 0, reads, writes and flushes
alike) fails with `code`.  The result records the `trace` of the SUCCESSFUL adapter
calls in order (`PEv.r delivered dstLen`, `PEv.w bytes`, `PEv.f`), and how the call
ended (`stop`).  A read when the stream and the schedule of sizes are both used up fails with
`TErr.eos`.

The invariant behind the theorems of this file is `TInv` in Scpi/Proofs/ProcTrace.lean;
`fault_run_is_cut` also rests on the comparison of the faulty with the fault-free run in
Scpi/Proofs/ProcFault.lean.
-/
import Scpi.Proofs.ProcFault
import Scpi.Props.C05Process

namespace Scpi
open Proc
namespace C10

/-! ### T10.2 — the shape of the trace -/

/-- The recogniser `wfRun (some false)` (Scpi/Proofs/ProcTrace.lean) is a two-state automaton
over the trace: in state `some false` (between exchanges) it accepts a read `r` and stays,
or a write `w b` with `b ≠ []` and moves to `some true` (flush due); in state `some true`
it accepts only a flush `f` and moves back; everything else leads to `none`.

**Trace grammar**: for every interface, buffer size, script and user state, the trace of
`process` is accepted, and it ends in the state "between exchanges" — i.e. it is a
sequence of `r` and of `w b, f` pairs with `b ≠ []` — except that it may end in
"flush due" when the run was ended by the injected fault and the faulty call is the very
next one, i.e. the flush of that write. -/
theorem trace_grammar {σ : Type} (I : Iface σ) (n : Nat) (sc : Script) (s : σ) :
    wfRun (some false) (process I n sc s).trace = some false ∨
    (wfRun (some false) (process I n sc s).trace = some true ∧
      ∃ code, (process I n sc s).stop = .transport (.fault code) ∧
        sc.fault = some ((process I n sc s).trace.length, code)) := by
  obtain ⟨ht, _, hx⟩ := process_outOK I n sc s
  rw [ht]
  rcases hx with ⟨_, hi⟩ | ⟨_, hi, _⟩ | ⟨code, hs, hf, hi⟩
  · exact .inl (complete_wfRun (gram_false.mp hi.gram))
  · exact .inl (complete_wfRun (gram_false.mp hi.gram))
  · cases gram_wfRun hi.gram with
    | inl hc => exact .inl hc
    | inr hp => exact .inr ⟨hp.2, code, hs, by rw [hf, hi.calls_eq]⟩

theorem trace_accepted {σ : Type} (I : Iface σ) (n : Nat) (sc : Script) (s : σ) :
    wfRun (some false) (process I n sc s).trace ≠ none := by
  cases trace_grammar I n sc s with
  | inl h => exact fun h0 => Option.some_ne_none _ (h.symm.trans h0)
  | inr h => exact fun h0 => Option.some_ne_none _ (h.1.symm.trans h0)

/-- **Every write is non-empty and is immediately followed by its flush**, unless it is the
last event and the run was ended by the fault injected at the flush call. -/
theorem write_then_flush {σ : Type} (I : Iface σ) (n : Nat) (sc : Script) (s : σ) (i : Nat)
    (b : Bytes) (h : (process I n sc s).trace[i]? = some (PEv.w b)) :
    b ≠ [] ∧
    ((process I n sc s).trace[i + 1]? = some PEv.f ∨
      (i + 1 = (process I n sc s).trace.length ∧
        ∃ code, (process I n sc s).stop = .transport (.fault code) ∧ sc.fault = some (i + 1, code))) := by
  obtain ⟨hb, hf | ⟨hl, ht⟩⟩ := wfRun_write _ _ (trace_accepted I n sc s) i b h
  · exact ⟨hb, .inl hf⟩
  · rcases trace_grammar I n sc s with hc | ⟨_, code, h1, h2⟩
    · rw [hc] at ht
      cases ht
    · exact ⟨hb, .inr ⟨hl, code, h1, by rw [hl]; exact h2⟩⟩

/-- **A flush occurs only right after a write.** -/
theorem flush_after_write {σ : Type} (I : Iface σ) (n : Nat) (sc : Script) (s : σ) (i : Nat)
    (h : (process I n sc s).trace[i]? = some PEv.f) :
    ∃ j b, i = j + 1 ∧ (process I n sc s).trace[j]? = some (PEv.w b) := by
  cases wfRun_flush _ _ (trace_accepted I n sc s) i h with
  | inl h => cases h.2
  | inr h => exact h

/-- **T10.1 — read after flush**: between the write of a response and any later read there
is the flush of that response: the next event after the write is the flush, and it comes
before the read.  So when `process` asks the transport for more input, every response it
has produced has been written AND flushed. -/
theorem read_after_flush {σ : Type} (I : Iface σ) (n : Nat) (sc : Script) (s : σ) (i j : Nat)
    (b : Bytes) (d l : Nat) (hw : (process I n sc s).trace[i]? = some (PEv.w b)) (hij : i < j)
    (hr : (process I n sc s).trace[j]? = some (PEv.r d l)) :
    (process I n sc s).trace[i + 1]? = some PEv.f ∧ i + 1 < j := by
  obtain ⟨hjl, _⟩ := List.getElem?_eq_some_iff.mp hr
  cases (write_then_flush I n sc s i b hw).2 with
  | inr h => omega
  | inl h =>
    refine ⟨h, ?_⟩
    have : i + 1 ≠ j := by
      intro e
      rw [e, hr] at h
      cases h
    omega

/-! ### T10.1/T10.2 — what is written, and when -/

/-- The events a response buffer `b` gives rise to: nothing if it is empty, else its write
and its flush. -/
example (b : Bytes) : respEvents b = if b = [] then [] else [PEv.w b, PEv.f] := rfl

/-- **One message handled.**  Whenever the inner loop of `process` goes round (for every
state `st`, even unreachable ones), it has found the first newline at offset
`read_offset + p` of the bytes just read, has called `run_from` on
`data = cmd_buf[proc_offset ..= read_offset + p]` from the current header path with a FRESH
response buffer of capacity `n`, and the trace has grown by `respEvents out.w.buf`:
the write and the flush of exactly what `run_from` left in the response buffer if that is
not empty, and NOTHING if it is empty — no write for a message without response.

(The response buffer is fresh for every message in the model; in the Rust code the single
`res_buf` is empty before every `run_from` because `res_buf.clear()` follows every write
and the write happens whenever the buffer is non-empty.  In particular the response buffer
is empty whenever a read is issued.) -/
theorem write_is_run_output {σ : Type} (I : Iface σ) (n : Nat) (fault : Option (Nat × Int))
    (readEnd : Nat) (st st' : PState σ) (h : innerStep I n fault readEnd st = .inl st') :
    ∃ window p data,
      slice st.buf st.readOff readEnd = some window ∧ newlinePos window = some p ∧
      slice st.buf st.procOff (st.readOff + p + 1) = some data ∧
      st'.trace = st.trace
        ++ respEvents (runFrom I st.header data { cap := some n } st.user).w.buf ∧
      st'.calls = st.calls
        + (respEvents (runFrom I st.header data { cap := some n } st.user).w.buf).length ∧
      st'.user = (runFrom I st.header data { cap := some n } st.user).s ∧
      st'.header = (runFrom I st.header data { cap := some n } st.user).header ∧
      st'.readOff = st.readOff + p + 1 := by
  rcases innerStep_view I n readEnd st with ⟨e, h', _⟩ | ⟨window, p, data, hw, hp, hd, h'⟩
  · rw [h' fault] at h
    cases h
  · refine ⟨window, p, data, hw, hp, hd, ?_⟩
    rw [h' fault] at h
    obtain ⟨o, rfl, _, hc | ⟨_, c, _, hc⟩ | ⟨_, _, c, _, hc⟩⟩ :=
      msgStep_cases I n fault st (st.readOff + p + 1) data
    · rw [hc.1] at h
      cases h
      exact ⟨rfl, rfl, rfl, rfl, rfl⟩
    · rw [hc] at h
      cases h
    · rw [hc] at h
      cases h

/-- The response buffer handed to `run_from` is empty. -/
example (n : Nat) : ({ cap := some n } : Writer).buf = [] := rfl

/-- **Every complete message is answered before the next read.**  The inner loop is left
normally (that is, `process` goes on to the next `read`) only when the bytes received so
far contain no newline from `read_offset` on: every newline-terminated message received
has been run, and its response written and flushed (previous theorem). -/
theorem no_pending_message_at_read {σ : Type} (I : Iface σ) (n : Nat) (fault : Option (Nat × Int))
    (readEnd fuel : Nat) (st : PState σ)
    (h : (procInner I n fault fuel readEnd st).2 = none) :
    ∃ window, slice (procInner I n fault fuel readEnd st).1.buf
        (procInner I n fault fuel readEnd st).1.readOff readEnd = some window ∧
      newlinePos window = none ∧ 10 ∉ window := by
  revert h
  refine procInner_invariant I n fault readEnd (fun _ _ => True)
    (fun r => r.2 = none → ∃ window, slice r.1.buf r.1.readOff readEnd = some window ∧
      newlinePos window = none ∧ 10 ∉ window) (fun _ _ h => nomatch h) ?_ fuel st trivial
  intro k s _
  generalize hs : innerStep I n fault readEnd s = x
  rcases x with s' | ⟨s', e⟩
  · trivial
  · intro hr
    cases hr
    obtain ⟨rfl, w, h1, h2⟩ := innerStep_exit_none I n fault readEnd s s' hs
    exact ⟨w, h1, h2, newlinePos_none w h2⟩

/-- **Nothing but responses is written**: every write in the trace of `process` is
non-empty and carries exactly the content that `run_from` left in a fresh response buffer
of capacity `n` (for some header path, input and user state — by `write_is_run_output`, those
of the message just handled). -/
theorem writes_are_run_outputs {σ : Type} (I : Iface σ) (n : Nat) (sc : Script) (s : σ) (b : Bytes)
    (h : PEv.w b ∈ (process I n sc s).trace) :
    b ≠ [] ∧ ∃ (header : Node) (data : Bytes) (user : σ),
      b = (runFrom I header data { cap := some n } user).w.buf := by
  constructor
  · obtain ⟨i, hi⟩ := List.getElem?_of_mem h
    exact (write_then_flush I n sc s i b hi).1
  · have hx := process_outOK I n sc s
    rw [hx.1] at h
    exact hx.tinv.writes b h

/-- Every read in the trace was issued on a non-empty slice of at most `n` bytes and
delivered at most that many bytes (`n ≥ 1`). -/
theorem reads_in_range {σ : Type} (I : Iface σ) (n : Nat) (hn : 1 ≤ n) (sc : Script) (s : σ)
    (d l : Nat) (h : PEv.r d l ∈ (process I n sc s).trace) : 1 ≤ l ∧ d ≤ l ∧ l ≤ n := by
  have hx := process_outOK I n sc s
  rw [hx.1] at h
  obtain ⟨h1, h2, h3⟩ := hx.tinv.reads d l h
  exact ⟨h3 hn, h1, h2⟩

/-! ### T10.3 — how `process` ends -/

/-- `calls` counts exactly the successful adapter calls: at the end (and, as the field
`TInv.calls_eq` of the loop invariant, at every point of the run) `calls` is the length of
the trace.  The reported trace and user state are those of the final state. -/
theorem calls_eq_trace_length {σ : Type} (I : Iface σ) (n : Nat) (sc : Script) (s : σ) :
    (process I n sc s).final.calls = (process I n sc s).trace.length ∧
    (process I n sc s).trace = (process I n sc s).final.trace ∧
    (process I n sc s).user = (process I n sc s).final.user := by
  have hx := process_outOK I n sc s
  refine ⟨?_, hx.1, hx.2.1⟩
  rw [hx.1]
  exact hx.tinv.calls_eq

/-- **T10.3 — outcome.**  `process` never returns `Ok`: the result type of the model,
`PEnd`, has only the constructors `transport e` (the call returned `Err(e)`) and `crash c`,
and for `n ≥ 1` a crash is excluded (C05) — so
1. the run ends with a transport error;
2. without an injected fault it ends with `eos`, the error of the read that found the script
   exhausted (and only then: stream and schedule are both empty);
3. with the fault `(k, code)` it ends EITHER with exactly that `code`, unchanged, after
   exactly `k` successful calls — the trace has length `k`, so no adapter call follows the
   failing one — OR, if the script is exhausted before call number `k` is reached
   (`trace.length < k`), with `eos`.
Whether the faulty call is a read, a write or a flush makes no difference. -/
theorem process_outcome {σ : Type} (I : Iface σ) (n : Nat) (hn : 1 ≤ n) (sc : Script) (s : σ) :
    (∃ e, (process I n sc s).stop = .transport e) ∧
    (sc.fault = none → (process I n sc s).stop = .transport .eos) ∧
    ((process I n sc s).stop = .transport .eos →
      (process I n sc s).final.stream = [] ∧ (process I n sc s).final.sizes = []) ∧
    (∀ k code, sc.fault = some (k, code) →
      ((process I n sc s).stop = .transport (.fault code) ∧ (process I n sc s).trace.length = k) ∨
      ((process I n sc s).stop = .transport .eos ∧ (process I n sc s).trace.length < k)) := by
  obtain ⟨ht, _, ⟨⟨c, hs⟩, _⟩ | ⟨hs, hi, hlt, hst, hsz⟩ | ⟨code, hs, hf, hi⟩⟩ :=
    process_outOK I n sc s
  · exact absurd hs (C05.process_never_crashes I n hn sc s c)
  · refine ⟨⟨_, hs⟩, fun _ => hs, fun _ => ⟨hst, hsz⟩, fun k code hf => .inr ⟨hs, ?_⟩⟩
    rw [ht, ← hi.calls_eq]
    exact hlt k code hf
  · refine ⟨⟨_, hs⟩, fun h0 => ?_, fun he => ?_, fun k code' hf' => ?_⟩
    · rw [h0] at hf
      cases hf
    · rw [hs] at he
      cases he
    · rw [hf] at hf'
      cases hf'
      exact .inl ⟨hs, by rw [ht, ← hi.calls_eq]⟩

/-- A fault code is never altered, with or without `n ≥ 1`: a run that returns `code` was
scheduled to fail with it, at the call that comes after the trace. -/
theorem fault_code_unchanged {σ : Type} (I : Iface σ) (n : Nat) (sc : Script) (s : σ) (code : Int)
    (h : (process I n sc s).stop = .transport (.fault code)) :
    sc.fault = some ((process I n sc s).trace.length, code) := by
  obtain ⟨ht, _, ⟨⟨_, hs⟩, _⟩ | ⟨hs, _⟩ | ⟨code', hs, hf, hi⟩⟩ := process_outOK I n sc s
  · rw [h] at hs
    cases hs
  · rw [h] at hs
    cases hs
  · rw [h] at hs
    cases hs
    rw [ht, ← hi.calls_eq]
    exact hf

/-- **T10.3 — the error is returned at once and nothing else changes.**  The run with the
fault `(k, code)` is the run WITHOUT fault cut at call `k`: its trace is the first `k`
events of the fault-free trace (same reads with the same sizes, same writes with the same
bytes, same flushes, in the same order), and
* if the fault-free run makes at least `k` successful calls — or its final, failing read is
  call number `k` — the faulty run returns `code` (after exactly those `k` calls);
* otherwise the fault is never reached and the two runs coincide completely (trace, user
  state, final state and `eos`).
So the library neither retries, nor swallows, nor alters a transport error, and makes no
adapter call after it. -/
theorem fault_run_is_cut {σ : Type} (I : Iface σ) (n : Nat) (hn : 1 ≤ n) (sc : Script) (s : σ)
    (k : Nat) (code : Int) :
    (process I n { sc with fault := some (k, code) } s).trace
      = (process I n { sc with fault := none } s).trace.take k ∧
    (k ≤ (process I n { sc with fault := none } s).trace.length →
      (process I n { sc with fault := some (k, code) } s).stop = .transport (.fault code)) ∧
    ((process I n { sc with fault := none } s).trace.length < k →
      process I n { sc with fault := some (k, code) } s = process I n { sc with fault := none } s) :=
  cut_at (process_outOK I n { sc with fault := some (k, code) } s)
    (C05.process_never_crashes I n hn _ s)
    (process_outOK I n { sc with fault := none } s) (C05.process_never_crashes I n hn _ s)
    (procLoop_sim I n (some (k, code)) _ (initState I n sc s))

/-! ### Non-vacuity: one query `Q?` answering `7` -/

def treeQ : Node := .mk 0 [([81], .mk 1 [] none (some 0))] none none
def IQ : Iface Unit :=
  { root := treeQ, cmds := [{ argTys := [], handler := fun s _ => (s, .ok (.int 7)) }],
    onError := fun s _ => s }
/-- `Q?\nQ?\n` -/
def streamQ : Bytes := [81, 63, 10, 81, 63, 10]

private def stq (buf : Bytes) (readOff : Nat) (stream : Bytes) (trace : List PEv) : PState Unit :=
  { buf, procOff := 0, readOff, header := treeQ, user := (), stream, sizes := [],
    calls := trace.length, trace }

/-- `N = 4`, no fault: the first read delivers `Q?\nQ`, the answer `7\n` is written and
flushed before the second read, which delivers `?\n`; the second answer is written and
flushed before the third read, which fails with `eos`. -/
example : (process IQ 4 { stream := streamQ, sizes := [] } ()).stop = .transport .eos ∧
    (process IQ 4 { stream := streamQ, sizes := [] } ()).trace =
      [.r 4 4, .w [55, 10], .f, .r 2 3, .w [55, 10], .f] := by decide +kernel

/-- `N = 8`: both messages arrive in one read; each answer is written and flushed on its own. -/
example : (process IQ 8 { stream := streamQ, sizes := [] } ()).stop = .transport .eos ∧
    (process IQ 8 { stream := streamQ, sizes := [] } ()).trace =
      [.r 6 8, .w [55, 10], .f, .w [55, 10], .f] := by decide +kernel

/-- Fault at call 2 (the flush of the first answer): the code comes back unchanged, the
trace has exactly 2 events and ends with the write whose flush failed. -/
example : (process IQ 4 { stream := streamQ, sizes := [], fault := some (2, -5) } ()).stop
      = .transport (.fault (-5)) ∧
    (process IQ 4 { stream := streamQ, sizes := [], fault := some (2, -5) } ()).trace =
      [.r 4 4, .w [55, 10]] := by decide +kernel

/-- Fault at call 1 (the write of the first answer): only the read has succeeded. -/
example : (process IQ 4 { stream := streamQ, sizes := [], fault := some (1, -5) } ()).stop
      = .transport (.fault (-5)) ∧
    (process IQ 4 { stream := streamQ, sizes := [], fault := some (1, -5) } ()).trace = [.r 4 4] := by
  decide +kernel

/-- A fault scheduled after the end of the stream (call 7; the run makes 6 successful calls
and the 7th, call number 6, is the read that fails with `eos`) is never reached. -/
example : (process IQ 4 { stream := streamQ, sizes := [], fault := some (7, -5) } ()).stop
      = .transport .eos := by decide +kernel

/-- The hypothesis of `write_is_run_output` is satisfiable: the step of the inner loop right
after the first read of the `N = 4` run handles `Q?\n` and appends the write and the flush of
`7\n`; the next step finds no newline in the remaining `Q` and leaves the loop normally (the
hypothesis of `no_pending_message_at_read`). -/
example :
    innerStep IQ 4 none 4 (stq [81, 63, 10, 81] 0 [63, 10] [.r 4 4]) =
      .inl { (stq [81, 63, 10, 81] 3 [63, 10] [.r 4 4, .w [55, 10], .f]) with procOff := 3 } ∧
    (procInner IQ 4 none 5 4 (stq [81, 63, 10, 81] 0 [63, 10] [.r 4 4])).2 = none :=
  ⟨by rfl, by decide +kernel⟩

/-- A command without response (`X` of the C05 example would do; here an unknown header, which
only raises an error) produces no write: the trace of `Z\n` is the read alone. -/
example : (process IQ 4 { stream := [90, 10], sizes := [] } ()).trace = [.r 2 4] ∧
    (process IQ 4 { stream := [90, 10], sizes := [] } ()).stop = .transport .eos := by
  decide +kernel

/-- The recogniser on the traces above. -/
example : wfRun (some false) [.r 4 4, .w [55, 10], .f, .r 2 3, .w [55, 10], .f] = some false ∧
    wfRun (some false) [.r 4 4, .w [55, 10]] = some true ∧
    wfRun (some false) [.r 4 4, .f] = none ∧
    wfRun (some false) [.w [], .f] = none ∧
    wfRun (some false) [.w [55], .r 1 1] = none := by decide +kernel

end C10
end Scpi
