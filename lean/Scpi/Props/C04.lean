/-
C04 — every successfully executed query produces exactly one response: the
handler's return value encoded as IEEE 488.2 response data, then a newline and a
flush of the writer.  Decoding the response yields exactly the returned value; the
bytes are the same for every writer that has room for them.  Commands whose handler
returns `()`, failed queries and undefined headers produce no output.

Specification: `Scpi/Spec/Decode.lean` — the shapes `RespTy`, the typing relation
`HasTy`, the well-formedness conditions `RespTy.WF` / `Resp.WF` and the
type-directed reader `decode`, which never calls the model's encoder.  Floats are
covered under the formatter contract `FloatTextOk`: `Props/C04Float` proves it of the
model's `Display` for every finite float, and the driver checks it on every float the
implementation prints (translation validation).

Findings recorded here as theorems: `err_not_injective` (a custom error can print
exactly like a standard one) and the `ambiguous_*` witnesses which justify each
exclusion made by `RespTy.WF` / `Resp.WF`.
-/
import Scpi.Proofs.RespDecode
import Scpi.Proofs.RespExec
import Scpi.Proofs.RunSteps

namespace Scpi
namespace C04

/-! ## T4.1 — decoding inverts encoding -/

/-- **Digits**: `Display` for unsigned integers prints at least one character, only
ASCII digits, and their decimal value is the number. -/
theorem natDigits_value (n : Nat) :
    natDigits n ≠ [] ∧ (∀ b ∈ natDigits n, isDig b = true) ∧ decVal (natDigits n) = n :=
  ⟨natDigits_ne_nil n, natDigits_all_dig n, decVal_natDigits n⟩

/-- **Digits round trip**: reading the digits of `n` (followed by anything that does
not start with a digit) gives back `n` and leaves what followed. -/
theorem natDigits_roundtrip (n : Nat) (rest : Bytes)
    (hr : ∀ b, rest.head? = some b → isDig b = false) :
    decNat (natDigits n ++ rest) = some (n, rest) :=
  decNat_natDigits n rest hr

/-- **Integer round trip**, negative numbers included: the pieces `Display` hands to
the writer (`-` and the digits of the absolute value), concatenated, read back as
the same integer. -/
theorem intPieces_roundtrip (v : Int) (rest : Bytes)
    (hr : ∀ b, rest.head? = some b → isDig b = false) :
    decInt ((intPieces v).flatten ++ rest) = some (v, rest) :=
  decInt_intPieces v rest hr

/-- The bytes `write_quoted` produces: an opening quote, the text with every double
quote doubled, a closing quote. -/
theorem quoted_bytes_eq (s : Bytes) :
    ((quotedCalls s).map WCall.bytes).flatten =
      34 :: (s.flatMap fun b => if b = 34 then [34, 34] else [b]) ++ [34] :=
  quoted_bytes s

/-- **String round trip**: `split('"')` + doubling (`write_quoted`) is inverted by
undoubling, for every text, whatever follows (unless it starts with a quote). -/
theorem quoted_roundtrip (s rest : Bytes) (hr : rest.head? ≠ some 34) :
    decStr (((quotedCalls s).map WCall.bytes).flatten ++ rest) = some (s, rest) :=
  decStr_quoted s rest hr

/-- **Block round trip** for every payload whose length has at most nine digits
(the empty block `#10` included), whatever follows. -/
theorem block_roundtrip (s rest : Bytes) (h : s.length < 10 ^ 9) :
    decArb ((Resp.arb s).encode ++ rest) = some (s, rest) :=
  decArb_encode s rest h

/-- The empty block is `#10`. -/
theorem arb_empty : (Resp.arb []).encode = [35, 49, 48] := encode_arb_empty

/-- A block of 10^9 bytes or more (a length of ten digits or more) is an error:
`write_response` refuses it with `TooMuchData` before writing anything, for every
writer. -/
theorem arb_too_long (s : Bytes) (h : 10 ^ 9 ≤ s.length) :
    (Resp.arb s).calls = [.fail (.std .TooMuchData)] ∧
    ∀ w : Writer, w.writeResp (.arb s) = (w, .error (.std .TooMuchData)) := by
  have hc := calls_arb_too_long s h
  refine ⟨hc, fun w => ?_⟩
  rw [Writer.writeResp, hc]
  rfl

/-- **T4.1, prefix form.**  A well-formed value of a well-formed type is read back
from the front of any text that continues with nothing or — for a type of fixed
arity — with a comma; the continuation is left unread.  Floats under `FloatsOk`, as in
`decode_encode`. -/
theorem decodeP_encode_append (r : Resp) (ty : RespTy) (rest : Bytes) (hw : r.WF) (ht : HasTy r ty)
    (hty : ty.WF = true) (hf : FloatsOk r)
    (hr : rest = [] ∨ (ty.fixed = true ∧ rest.head? = some 44)) :
    decodeP ty (r.encode ++ rest) = some (r, rest) :=
  decodeP_encode ty r rest ht hw hf hty hr

/-- **T4.1** — decoding the response text yields exactly the value the handler
returned: for every well-formed value `r` of every well-formed shape `ty`, provided
the float formatter contract `FloatTextOk` holds for the finite floats occurring in
`r` (bit-exactness of floats is part of `FloatTextOk`: the text parses back to the
same bit pattern). -/
theorem decode_encode (r : Resp) (ty : RespTy) (hw : r.WF) (ht : HasTy r ty)
    (hty : ty.WF = true) (hf : FloatsOk r) : decode ty r.encode = some r := by
  have := decodeP_encode ty r [] ht hw hf hty (Or.inl rfl)
  rw [List.append_nil] at this
  simp only [decode, this]

/-- A value without float leaves. -/
def NoFloatLeaf : Resp → Prop
  | .f32 _ => False
  | .f64 _ => False
  | _ => True

/-- **T4.1 for values that contain no floats** (integers, booleans, strings, character
data, blocks, errors and their tuples and lists): `FloatsOk` holds of them trivially. -/
theorem decode_encode_no_floats (r : Resp) (ty : RespTy) (hw : r.WF) (ht : HasTy r ty)
    (hty : ty.WF = true) (hn : r.All NoFloatLeaf) : decode ty r.encode = some r := by
  refine decode_encode r ty hw ht hty (all_mono (fun x hx => ?_) r hn)
  -- `NoFloatLeaf` is `False` of a float, and `LeafFloatOk` is `True` of any other leaf
  cases x with
  | f32 _ | f64 _ => exact False.elim hx
  | _ => exact trivial

/-- A list of integers has type `list int`. -/
theorem hasTy_int_list (l : List Int) : HasTy (.seq (l.map Resp.int)) (.list .int) := by
  refine .list fun x hx => ?_
  obtain ⟨v, _, rfl⟩ := List.mem_map.mp hx
  exact .int v

/-! ### Non-vacuity of T4.1 -/

/-- The concrete value `-5,"a""b",1`. -/
example : (Resp.seq [.int (-5), .str [97, 34, 98], .bool true]).encode =
    [45, 53, 44, 34, 97, 34, 34, 98, 34, 44, 49] := by decide +kernel

example : decode (.seq [.int, .str, .bool])
    (Resp.seq [.int (-5), .str [97, 34, 98], .bool true]).encode =
    some (.seq [.int (-5), .str [97, 34, 98], .bool true]) := by rfl

/-- The hypotheses of `decode_encode` are satisfiable on that value (no floats). -/
example : decode (.seq [.int, .str, .bool])
    (Resp.seq [.int (-5), .str [97, 34, 98], .bool true]).encode =
    some (.seq [.int (-5), .str [97, 34, 98], .bool true]) :=
  -- `WF` and `All NoFloatLeaf` unfold to one `True` per leaf (and one for the end of the list)
  decode_encode_no_floats _ _
    ⟨trivial, trivial, trivial, trivial⟩
    (.tuple (.cons (.int _) (.cons (.str _) (.cons (.bool _) .nil))))
    (by decide +kernel)
    ⟨trivial, trivial, trivial, trivial⟩

/-- … and on a nested value with floats, a block, character data, a `unit`
position and a variable-length tail: `1.5,-0.15625,#13<1><2><3>,,AB,7,8,9`. -/
example : decode (.seq [.f64, .f32, .arb, .unit, .chars, .list .int])
    (Resp.seq [.f64 0x3ff8000000000000, .f32 0xbe200000, .arb [1, 2, 3], .unit, .chars [65, 66],
      .seq [.int 7, .int 8, .int 9]]).encode =
    some (.seq [.f64 0x3ff8000000000000, .f32 0xbe200000, .arb [1, 2, 3], .unit, .chars [65, 66],
      .seq [.int 7, .int 8, .int 9]]) :=
  decode_encode _ _
    (by
      simp only [Resp.WF, Resp.All, Resp.AllL, Resp.LeafWF]
      decide +kernel)
    (.tuple (.cons (.f64 _) (.cons (.f32 _) (.cons (.arb _) (.cons .unit (.cons (.chars _)
      (.cons (hasTy_int_list [7, 8, 9]) .nil)))))))
    (by decide +kernel)
    (by
      simp only [FloatsOk, Resp.All, Resp.AllL, LeafFloatOk, and_true]
      exact ⟨fun _ _ => by decide +kernel, fun _ _ => by decide +kernel⟩)

/-- `FloatTextOk` is satisfiable: `1.5` and `-0.15625`. -/
example : FloatTextOk fmt64 0x3ff8000000000000 ∧ FloatTextOk fmt32 0xbe200000 := by
  decide +kernel

/-! ### Why the exclusions of `WF` are needed (witnesses) -/

/-- **Finding.**  `Error → (number, description)` is not injective: the custom
error `Custom(-100, "Command error")` prints exactly like `Error::CommandError`.
Hence `Err.Canonical` in `Resp.WF`. -/
theorem err_not_injective :
    (Resp.err (.custom (-100) (strBytes "Command error"))).encode =
      (Resp.err (.std .CommandError)).encode ∧
    Err.custom (-100) (strBytes "Command error") ≠ Err.std .CommandError := by
  refine ⟨?_, fun h => by cases h⟩
  rw [encode_err, encode_err]
  rfl

/-- Two variable-length lists in one tuple: `([1],[2,3])` and `([1,2],[3])` both
print `1,2,3`.  Hence "`list` only in tail position". -/
theorem ambiguous_two_lists :
    (Resp.seq [.seq [.int 1], .seq [.int 2, .int 3]]).encode =
      (Resp.seq [.seq [.int 1, .int 2], .seq [.int 3]]).encode ∧
    HasTy (.seq [.seq [.int 1], .seq [.int 2, .int 3]]) (.seq [.list .int, .list .int]) ∧
    HasTy (.seq [.seq [.int 1, .int 2], .seq [.int 3]]) (.seq [.list .int, .list .int]) := by
  exact ⟨by rfl, .tuple (.cons (hasTy_int_list [1]) (.cons (hasTy_int_list [2, 3]) .nil)),
    .tuple (.cons (hasTy_int_list [1, 2]) (.cons (hasTy_int_list [3]) .nil))⟩

/-- A list of lists: `[[1],[2]]` and `[[1,2]]` both print `1,2`.  Hence "the element
type of a `list` is `fixed`". -/
theorem ambiguous_nested_list :
    (Resp.seq [.seq [.int 1], .seq [.int 2]]).encode = (Resp.seq [.seq [.int 1, .int 2]]).encode := by
  rfl

/-- A list of `()`: `[()]` and `[]` both print nothing.  Hence "the element type of a
`list` is `nonEmpty`". -/
theorem ambiguous_unit_list : (Resp.seq [.unit]).encode = (Resp.seq []).encode := by rfl

/-- Character data is written verbatim: `A,B` as one element prints like the two
elements `A` and `B`; an empty element prints like no element.  Hence the two
conditions on `chars` in `Resp.WF`. -/
theorem ambiguous_chars :
    (Resp.seq [.chars [65, 44, 66]]).encode = (Resp.seq [.chars [65], .chars [66]]).encode ∧
    (Resp.seq [.chars []]).encode = (Resp.seq []).encode := ⟨by rfl, by rfl⟩

/-! ## T4.2 — NaN and the infinities are replaced by sentinels -/

theorem floatCalls_nan (f : FloatFmt) (bits : Nat) (h : f.isNan bits = true) :
    floatCalls f bits = [.direct (strBytes "9.91E+37")] :=
  if_pos h

theorem floatCalls_inf (f : FloatFmt) (bits : Nat) (h : f.isInf bits = true) :
    floatCalls f bits =
      [.direct (if f.negOf bits then strBytes "-9.9E+37" else strBytes "9.9E+37")] := by
  rw [floatCalls, if_neg (not_isNan_of_isInf h), if_pos h]
  split <;> rfl

/-- **T4.2** every `f64` NaN (any sign, any payload) is written as `9.91E+37`, in
one `write_str`. -/
theorem nan_sentinel (bits : Nat) (h : fmt64.isNan bits = true) :
    (Resp.f64 bits).calls = [.direct (strBytes "9.91E+37")] ∧
    (Resp.f64 bits).encode = [57, 46, 57, 49, 69, 43, 51, 55] :=
  ⟨floatCalls_nan _ _ h, (floatCalls_bytes fmt64 bits).trans (if_pos h)⟩

theorem nan_sentinel_f32 (bits : Nat) (h : fmt32.isNan bits = true) :
    (Resp.f32 bits).calls = [.direct (strBytes "9.91E+37")] ∧
    (Resp.f32 bits).encode = [57, 46, 57, 49, 69, 43, 51, 55] :=
  ⟨floatCalls_nan _ _ h, (floatCalls_bytes fmt32 bits).trans (if_pos h)⟩

/-- **T4.2** the `f64` infinities are written as `9.9E+37` and `-9.9E+37`. -/
theorem inf_sentinel (bits : Nat) (h : fmt64.isInf bits = true) :
    (Resp.f64 bits).encode =
      if fmt64.negOf bits then [45, 57, 46, 57, 69, 43, 51, 55] else [57, 46, 57, 69, 43, 51, 55] :=
  (floatCalls_bytes fmt64 bits).trans ((if_neg (not_isNan_of_isInf h)).trans (if_pos h))

theorem inf_sentinel_f32 (bits : Nat) (h : fmt32.isInf bits = true) :
    (Resp.f32 bits).encode =
      if fmt32.negOf bits then [45, 57, 46, 57, 69, 43, 51, 55] else [57, 46, 57, 69, 43, 51, 55] :=
  (floatCalls_bytes fmt32 bits).trans ((if_neg (not_isNan_of_isInf h)).trans (if_pos h))

/-- Non-vacuity: the canonical NaN and the two infinities of `f64`. -/
example : fmt64.isNan fmt64.nanBits = true ∧ fmt64.isInf fmt64.infBits = true ∧
    fmt64.isInf (fmt64.infBits + fmt64.signBit) = true ∧
    fmt64.negOf (fmt64.infBits + fmt64.signBit) = true := by decide +kernel

/-- The sentinels are not round-trip values: the text of NaN reads back as the
finite number 9.91·10^37. -/
example : ∃ b, decode .f64 (Resp.f64 fmt64.nanBits).encode = some (.f64 b) ∧
    fmt64.isNan b = false := by
  rw [(nan_sentinel fmt64.nanBits (by decide +kernel)).2]
  exact ⟨_, rfl, by decide +kernel⟩

/-! ## T4.3 — the bytes do not depend on the writer -/

/-- "The writer has room for `n` more bytes": it is unbounded, or it is a
`heapless::Vec<u8, c>` with `len + n ≤ c`. -/
theorem fits_iff (w : Writer) (n : Nat) :
    w.fits n = true ↔ (w.cap = none ∨ ∃ c, w.cap = some c ∧ w.buf.length + n ≤ c) := by
  rw [Writer.fits_iff]
  cases w.cap <;> simp

/-- **T4.3** For every writer that has room for the bytes of the response —
unbounded (`std::vec::Vec`, pass-through) or bounded (`heapless::Vec`) — and every
value without over-long block, `write_response` succeeds, and afterwards the
buffer is the old buffer followed by exactly `r.encode`; the events the writer saw
are write events (no flush) whose concatenation is `r.encode`.  The bytes are thus
the same for every writer implementation. -/
theorem writer_independent (r : Resp) (w : Writer) (hnf : ∀ c ∈ r.calls, c.isFail = false)
    (hroom : w.cap = none ∨ ∃ c, w.cap = some c ∧ w.buf.length + r.encode.length ≤ c) :
    ∃ w', w.writeResp r = (w', .ok ()) ∧ w'.buf = w.buf ++ r.encode ∧ w'.cap = w.cap ∧
      ∃ ws : List Bytes, w'.evs = w.evs ++ ws.map WEv.w ∧ ws.flatten = r.encode := by
  have hfits : w.fits (callsBytes r.calls).length = true := (fits_iff w _).mpr hroom
  obtain ⟨w', hw'⟩ := Writer.calls_fits r.calls w hnf hfits
  obtain ⟨hc, hb, hev⟩ := Writer.calls_ok r.calls w w' hw'
  exact ⟨w', hw', hb, hc, hev⟩

/-- `writer_independent` for well-formed values (they contain no over-long block). -/
theorem writer_independent_wf (r : Resp) (w : Writer) (hw : r.WF)
    (hroom : w.cap = none ∨ ∃ c, w.cap = some c ∧ w.buf.length + r.encode.length ≤ c) :
    ∃ w', w.writeResp r = (w', .ok ()) ∧ w'.buf = w.buf ++ r.encode :=
  let ⟨w', h1, h2, _⟩ := writer_independent r w (wf_no_fail r hw) hroom
  ⟨w', h1, h2⟩

/-- Conversely, whenever `write_response` succeeds — on ANY writer — the writer has
received exactly `r.encode`: a success is never a partial response. -/
theorem written_is_encode (r : Resp) (w w' : Writer) (h : w.writeResp r = (w', .ok ())) :
    w'.buf = w.buf ++ r.encode ∧ w'.cap = w.cap ∧
      ∃ ws : List Bytes, w'.evs = w.evs ++ ws.map WEv.w ∧ ws.flatten = r.encode := by
  obtain ⟨hc, hb, hev⟩ := Writer.calls_ok r.calls w w' h
  exact ⟨hb, hc, hev⟩

/-- Two writers that both accept the response hold the same new bytes. -/
theorem same_bytes (r : Resp) (w1 w1' w2 w2' : Writer) (h1 : w1.writeResp r = (w1', .ok ()))
    (h2 : w2.writeResp r = (w2', .ok ())) :
    w1'.buf.drop w1.buf.length = w2'.buf.drop w2.buf.length := by
  rw [(written_is_encode r w1 w1' h1).1, (written_is_encode r w2 w2' h2).1, List.drop_left,
    List.drop_left]

/-- Non-vacuity: a `heapless::Vec<u8, 16>` and an unbounded writer, same bytes. -/
example :
    ((Writer.mk (some 16) [] []).writeResp (.seq [.int (-5), .str [97, 34, 98], .bool true])).1.buf =
      [45, 53, 44, 34, 97, 34, 34, 98, 34, 44, 49] ∧
    ((Writer.mk none [] []).writeResp (.seq [.int (-5), .str [97, 34, 98], .bool true])).1.buf =
      [45, 53, 44, 34, 97, 34, 34, 98, 34, 44, 49] := by decide +kernel

/-! ## T4.4 — a successful query writes one response, a newline, and flushes -/

/-- **T4.4** If `execute` succeeds on a query, then the query slot of the node holds
a command `id` whose handler ran on the converted arguments and returned a value
`resp` (`Returned`), and — for every writer — the writer has received exactly
`resp.encode ++ [10]` and then exactly one flush, and nothing else: the new events
are write events whose concatenation is `resp.encode ++ [10]`, followed by `.f`. -/
theorem execute_query_ok {σ : Type} (I : Iface σ) (call : CommandCall) (w w' : Writer) (s s' : σ)
    (h : execute I call w s = (s', w', .ok)) (hq : call.query = true) :
    ∃ id resp, call.node.query = some id ∧ Returned I id call.args s s' resp ∧
      w'.cap = w.cap ∧ w'.buf = w.buf ++ resp.encode ++ [10] ∧
      ∃ ws : List Bytes, w'.evs = w.evs ++ ws.map WEv.w ++ [WEv.f] ∧
        ws.flatten = resp.encode ++ [10] := by
  obtain ⟨id, resp, hs, hret, hresp⟩ := execute_ok_returned h
  rw [hq] at hresp
  exact ⟨id, resp, (callSlot_query hq).symm.trans hs, hret, respond_query_ok hresp⟩

/-- **T4.4, existence.**  If the handler of the query returns `resp`, `resp` has no
over-long block and the writer has room for `resp.encode` and the newline, then
`execute` succeeds (and `execute_query_ok` describes the writer). -/
theorem execute_query_total {σ : Type} (I : Iface σ) (call : CommandCall) (w : Writer) (s s' : σ)
    (id : Nat) (resp : Resp) (hq : call.query = true) (hslot : call.node.query = some id)
    (hret : Returned I id call.args s s' resp) (hnf : ∀ c ∈ resp.calls, c.isFail = false)
    (hroom : w.cap = none ∨ ∃ c, w.cap = some c ∧ w.buf.length + (resp.encode.length + 1) ≤ c) :
    ∃ w', execute I call w s = (s', w', .ok) := by
  let ⟨w', h, _⟩ := execute_query_writes hq hslot hret hnf ((fits_iff w _).mpr hroom)
  exact ⟨w', h⟩

/-! ## T4.5 — no output otherwise -/

/-- **T4.5** If `execute` does not get as far as a handler that returns a value —
the header has no handler of the requested kind, the handler table has no such
command, the number of arguments is wrong, an argument cannot be converted, or the
handler returns an error — then the writer is untouched (no byte, no flush) and
the result is not `ok`. -/
theorem no_output {σ : Type} (I : Iface σ) (call : CommandCall) (w : Writer) (s : σ)
    (h : ∀ id, callSlot call = some id → ∀ s' resp, ¬ Returned I id call.args s s' resp) :
    (execute I call w s).2.1 = w ∧ ∀ s' w', execute I call w s ≠ (s', w', .ok) := by
  refine ⟨?_, fun s' w' he => ?_⟩
  · refine execute_cases I call w s (motive := fun r => r.2.1 = w) (fun _ => rfl) (fun _ _ _ => rfl)
      (fun _ _ _ _ _ => rfl) (fun _ _ _ _ _ _ _ _ => rfl) ?_
    intro c tvs s1 resp hr hlen hconv hh
    obtain ⟨id, hs, hc⟩ := resolveCmd_eq_some.1 hr
    exact absurd ⟨c, tvs, hc, hlen, hconv, hh⟩ (h id hs s1 resp)
  · obtain ⟨id, resp, hs, hr, _⟩ := execute_ok_returned he
    exact h id hs s' resp hr

/-- Undefined header (no handler of the requested kind on the node). -/
theorem no_output_undefined_header {σ : Type} (I : Iface σ) (call : CommandCall) (w : Writer)
    (s : σ) (h : (if call.query then call.node.query else call.node.command) = none) :
    execute I call w s = (s, w, .err (.std .UndefinedHeader)) :=
  execute_no_slot ((resolve_eq_none_iff I call).2 (.inl h)) w s

/-- Wrong number of arguments. -/
theorem no_output_arity {σ : Type} (I : Iface σ) (call : CommandCall) (w : Writer) (s : σ)
    (id : Nat) (c : Cmd σ) (hs : callSlot call = some id) (hc : I.cmds[id]? = some c)
    (hlen : call.args.length ≠ c.argTys.length) :
    execute I call w s = (s, w, .err (.std .UnexpectedNumberOfParameters)) :=
  execute_arity (resolveCmd_eq_some.2 ⟨id, hs, hc⟩) hlen w s

/-- An argument that cannot be converted to the parameter type. -/
theorem no_output_conversion {σ : Type} (I : Iface σ) (call : CommandCall) (w : Writer) (s : σ)
    (id : Nat) (c : Cmd σ) (e : Err) (hs : callSlot call = some id) (hc : I.cmds[id]? = some c)
    (hlen : call.args.length = c.argTys.length)
    (hconv : convertArgs c.argTys call.args = .error (.inl e)) :
    execute I call w s = (s, w, .err e) :=
  execute_conversion (resolveCmd_eq_some.2 ⟨id, hs, hc⟩) hlen hconv w s

/-- A handler that returns an error (only the user state may change). -/
theorem no_output_handler_error {σ : Type} (I : Iface σ) (call : CommandCall) (w : Writer) (s s' : σ)
    (id : Nat) (c : Cmd σ) (tvs : List TVal) (e : Err) (hs : callSlot call = some id)
    (hc : I.cmds[id]? = some c) (hlen : call.args.length = c.argTys.length)
    (hconv : convertArgs c.argTys call.args = .ok tvs) (hh : c.handler s tvs = (s', .error e)) :
    execute I call w s = (s', w, .err e) := by
  rw [execute_called (resolveCmd_eq_some.2 ⟨id, hs, hc⟩) hlen hconv, hh]

/-- **T4.5** A command (not a query) whose handler returns `()` leaves the writer
untouched: `().write_response` makes no call, and `execute` adds neither newline
nor flush. -/
theorem command_unit_no_output {σ : Type} (I : Iface σ) (call : CommandCall) (w : Writer) (s s' : σ)
    (id : Nat) (hq : call.query = false) (hslot : call.node.command = some id)
    (hret : Returned I id call.args s s' .unit) : execute I call w s = (s', w, .ok) := by
  rw [execute_returned ((callSlot_command hq).trans hslot) hret, hq]
  rfl

theorem unit_calls : Resp.unit.calls = [] := by simp [Resp.calls]

/-! ### Non-vacuity of T4.4 / T4.5 -/

/-- An interface with one query (id 0, no parameters, returns `(-5, "a\"b", true)` and
counts its calls) and one command (id 1, one `bool` parameter, returns `()`). -/
def demoIface : Iface Nat where
  root := .mk 0 [] (some 1) (some 0)
  cmds := [⟨[], fun n _ => (n + 1, .ok (.seq [.int (-5), .str [97, 34, 98], .bool true]))⟩,
           ⟨[.bool], fun n _ => (n + 1, .ok .unit)⟩]
  onError := fun n _ => n

def demoQuery : CommandCall :=
  { node := demoIface.root, header := none, query := true, args := [], terminated := true }

def demoCommand (args : List Value) : CommandCall :=
  { node := demoIface.root, header := none, query := false, args := args, terminated := true }

/-- The query succeeds on a `heapless::Vec<u8, 12>`; the response, newline, flush. -/
example : ∃ w', execute demoIface demoQuery (Writer.mk (some 12) [] []) 0 = (1, w', .ok) ∧
    w'.buf = [45, 53, 44, 34, 97, 34, 34, 98, 34, 44, 49, 10] ∧ w'.evs.getLast? = some .f :=
  ⟨_, by rfl, by rfl, by rfl⟩

/-- The command with a proper argument runs and writes nothing. -/
example : execute demoIface (demoCommand [.dec [49]]) (Writer.mk (some 12) [] []) 0 =
    (1, Writer.mk (some 12) [] [], .ok) := by rfl

/-- The hypothesis of `no_output` holds for the command without its argument. -/
example : (execute demoIface (demoCommand []) (Writer.mk (some 12) [7] []) 0).2.1 =
    Writer.mk (some 12) [7] [] :=
  (no_output demoIface (demoCommand []) _ 0 (by
    intro id hid s' resp ⟨c, tvs, hc, hlen, _, _⟩
    -- the slot is command 1, which is declared with one parameter; the call has none
    cases (hid : some 1 = some id)
    cases (hc : some _ = some c)
    cases hlen)).1

/-! ## Execution order -/

/-- Two queries executed one after the other (the second on the writer and user
state the first one left): the writer holds the first response and its newline,
then the second response and its newline. -/
theorem two_queries_in_order {σ : Type} (I : Iface σ) (c1 c2 : CommandCall) (w w1 w2 : Writer)
    (s s1 s2 : σ) (h1 : execute I c1 w s = (s1, w1, .ok)) (h2 : execute I c2 w1 s1 = (s2, w2, .ok))
    (q1 : c1.query = true) (q2 : c2.query = true) :
    ∃ id1 id2 r1 r2, c1.node.query = some id1 ∧ c2.node.query = some id2 ∧
      Returned I id1 c1.args s s1 r1 ∧ Returned I id2 c2.args s1 s2 r2 ∧
      w2.buf = w.buf ++ (r1.encode ++ [10]) ++ (r2.encode ++ [10]) := by
  obtain ⟨id1, r1, hs1, hr1, _, hb1, _⟩ := execute_query_ok I c1 w w1 s s1 h1 q1
  obtain ⟨id2, r2, hs2, hr2, _, hb2, _⟩ := execute_query_ok I c2 w1 w2 s1 s2 h2 q2
  refine ⟨id1, id2, r1, r2, hs1, hs2, hr1, hr2, ?_⟩
  rw [hb2, hb1]
  simp

/-- Whatever its outcome, `execute` only appends to the writer: what earlier units
wrote is never changed or removed. -/
theorem execute_appends {σ : Type} (I : Iface σ) (call : CommandCall) (w : Writer) (s : σ) :
    (execute I call w s).2.1.cap = w.cap ∧ (∃ out, (execute I call w s).2.1.buf = w.buf ++ out) ∧
      ∃ evs, (execute I call w s).2.1.evs = w.evs ++ evs :=
  (Writer.kept_extends w).execute I call w s (.refl w)

/-- … and so does a whole `run_from` / `run`: the final buffer is the initial one
followed by the output of the units, which `runLoop` executes one after the other,
each on the writer the previous one left. -/
theorem runFrom_appends {σ : Type} (I : Iface σ) (header : Node) (input : Bytes) (w : Writer) (s : σ) :
    (runFrom I header input w s).w.cap = w.cap ∧
      (∃ out, (runFrom I header input w s).w.buf = w.buf ++ out) ∧
      ∃ evs, (runFrom I header input w s).w.evs = w.evs ++ evs :=
  extends_runFrom I header input w s

theorem run_appends {σ : Type} (I : Iface σ) (input : Bytes) (w : Writer) (s : σ) :
    (run I input w s).w.cap = w.cap ∧ (∃ out, (run I input w s).w.buf = w.buf ++ out) ∧
      ∃ evs, (run I input w s).w.evs = w.evs ++ evs :=
  runFrom_appends I I.root input w s

end C04
end Scpi
