/-
C02 — compound-command path rule, message isolation, sequential execution
(dispatcher side: the decision logic of `run`/`run_from`; the lexical side of the
header recognisers is in the parser properties).

"Within one program message a unit that follows ';' is resolved relative to the path
of the preceding unit's header (that header without its last mnemonic), a leading ':'
makes the unit absolute and resets the path to the root, and common '*' commands
leave the path untouched.  Every message terminator resets the path to the root, so
the handler a message selects never depends on any message sent before it.  Units
execute one at a time, in the order written, each finishing (response included)
before the next starts."

All theorems hold for every interface: every tree, every handler table (arbitrary
functions `σ → List TVal → σ × Except Err Resp`), every error handler, every writer.

* T2.3 (sequencing): `runLoop_fuel_irrelevant`, the one-step equations
  `runFrom_incomplete … runFrom_call`, `run_sequential`, `run_is_big_step`,
  `events_in_order`.
* T2.1 (path rule): `common_keeps_path`, `absolute_ignores_path`,
  `relative_starts_at_path`, `new_path_is_parent`, `path_after_unit`.
* T2.2 (isolation): `run_append_message`, `run_append_message_run`; they take parser
  finality (`ParseFinalOk`, `ParseFinalErr`, proved with the parser properties) as
  explicit hypotheses.
-/
import Scpi.Proofs.RunLog
import Scpi.Proofs.HeaderWalk
import Scpi.Proofs.RunAppend
import Scpi.Proofs.RunStepsDemo

namespace Scpi
namespace C02

/-! ## T2.3 — one unit at a time, in the order written -/

/-- The fuel of the loop is only a termination device: any two amounts above the
input length give the same run, so `runFrom` is a function of its arguments that
can be unfolded one unit at a time. -/
theorem runLoop_fuel_irrelevant {σ : Type} (I : Iface σ) (f1 f2 : Nat) (h : Node) (input : Bytes)
    (w : Writer) (s : σ) (h1 : input.length < f1) (h2 : input.length < f2) :
    runLoop I f1 h input w s = runLoop I f2 h input w s :=
  Scpi.runLoop_fuel_irrelevant I f1 f2 h input w s h1 h2

/-- Nothing to read: nothing happens. -/
theorem runFrom_nil {σ : Type} (I : Iface σ) (h : Node) (w : Writer) (s : σ) :
    runFrom I h [] w s = { rest := [], header := h, w := w, s := s } :=
  Scpi.runFrom_nil I h w s

/-- An incomplete unit is left in the buffer; path, writer and user state are untouched. -/
theorem runFrom_incomplete {σ : Type} (I : Iface σ) (h : Node) (input : Bytes) (w : Writer) (s : σ)
    (hne : input ≠ []) (hp : parse I.root h input = .incomplete) :
    runFrom I h input w s = { rest := input, header := h, w := w, s := s } :=
  runFrom_stop hne (unitStep_incomplete I ⟨h, input, w, s⟩ hp)

/-- A recoverable syntax error: exactly one `onError`, then the run goes on after the
first newline, from the root (or stops, keeping the input, when there is no newline). -/
theorem runFrom_soft {σ : Type} (I : Iface σ) (h : Node) (input : Bytes) (w : Writer) (s : σ)
    (e : Option Err) (hne : input ≠ []) (hp : parse I.root h input = .soft e) :
    runFrom I h input w s =
      match afterNewline input with
      | some rest => runFrom I I.root rest w (I.onError s (parseErrToErr e))
      | none => { rest := input, header := h, w := w, s := I.onError s (parseErrToErr e) } :=
  runFrom_fault I h input w s _ hne (.inl ⟨e, hp, rfl⟩)

/-- A fatal error (undefined header): the same, with the error itself. -/
theorem runFrom_fatal {σ : Type} (I : Iface σ) (h : Node) (input : Bytes) (w : Writer) (s : σ)
    (e : Err) (hne : input ≠ []) (hp : parse I.root h input = .fatal e) :
    runFrom I h input w s =
      match afterNewline input with
      | some rest => runFrom I I.root rest w (I.onError s e)
      | none => { rest := input, header := h, w := w, s := I.onError s e } :=
  runFrom_fault I h input w s e hne (.inr hp)

/-- An empty message (a bare terminator): the run goes on behind it, from the root. -/
theorem runFrom_empty_message {σ : Type} (I : Iface σ) (h : Node) (input i : Bytes) (w : Writer)
    (s : σ) (hne : input ≠ []) (hp : parse I.root h input = .ok i none) :
    runFrom I h input w s = runFrom I I.root i w s := by
  rw [runFrom_step I h input w s hne, unitStep_empty_message I ⟨h, input, w, s⟩ i hp]

/-- An accepted unit: it is executed — handler and response — to the end, on the
writer and user state the previous units left; `onError` is applied once iff the
execution returned an error (with exactly that error); then the run goes on behind
the unit with the writer and state the unit left and the path
`headerAfter I.root h call` (root after a terminator, else the unit's own path, else
— common command — the path unchanged). -/
theorem runFrom_call {σ : Type} (I : Iface σ) (h : Node) (input i : Bytes) (call : CommandCall)
    (w : Writer) (s : σ) (hne : input ≠ []) (hp : parse I.root h input = .ok i (some call)) :
    runFrom I h input w s =
      runFrom I (headerAfter I.root h call) i (execute I call w s).2.1
        (reportExec I (execute I call w s).1 (execute I call w s).2.2) := by
  rw [runFrom_step I h input w s hne, unitStep_call I ⟨h, input, w, s⟩ i call hp]

/-- `reportExec`: the error handler runs iff the unit's execution returned an error. -/
theorem reportExec_eq {σ : Type} (I : Iface σ) (s : σ) (r : ExecRes) :
    reportExec I s r = match r with | .err e => I.onError s e | _ => s := by
  cases r <;> rfl

/-- `runFrom` is exactly the big-step relation "perform unit steps one after the other,
each on the configuration the previous one left, until one stops or the input is
used up". -/
theorem run_is_big_step {σ : Type} (I : Iface σ) (h : Node) (input : Bytes) (w : Writer) (s : σ)
    (o : RunOut σ) : runFrom I h input w s = o ↔ Runs I ⟨h, input, w, s⟩ o :=
  runFrom_iff_runs I ⟨h, input, w, s⟩ o

/-- **T2.3**: every run is a finite chain of configurations `c₀ → c₁ → … → last`,
`c₀` the initial one, each obtained from its predecessor by ONE `unitStep` (which
parses one unit at the front of the unread input and executes it completely, response
included, before the next configuration exists), and the result of the run is what
the last configuration yields: its own writer and user state when the input is used
up, else whatever the stopping step (incomplete unit, error without newline) returns.
So writer and user state are folded through the units in the order written. -/
theorem run_sequential {σ : Type} (I : Iface σ) (h : Node) (input : Bytes) (w : Writer) (s : σ) :
    ∃ (cs : List (Cfg σ)) (last : Cfg σ), IsTrace I ⟨h, input, w, s⟩ cs last ∧
      ((last.input = [] ∧
          runFrom I h input w s =
            { rest := [], header := last.header, w := last.w, s := last.s }) ∨
       (last.input ≠ [] ∧ unitStep I last = .stop (runFrom I h input w s))) :=
  runFrom_induct I (motive := fun c o => ∃ cs last, IsTrace I c cs last ∧
      ((last.input = [] ∧ o = { rest := [], header := last.header, w := last.w, s := last.s }) ∨
       (last.input ≠ [] ∧ unitStep I last = .stop o)))
    (fun c h0 => ⟨[], c, rfl, .inl ⟨h0, rfl⟩⟩)
    (fun c _ hne hs => ⟨[], c, rfl, .inr ⟨hne, hs⟩⟩)
    (fun _ c' _ hne hs ⟨cs, last, ht, hl⟩ => ⟨c' :: cs, last, ⟨hne, hs, ht⟩, hl⟩)
    ⟨h, input, w, s⟩

/-- Each step of the chain reads strictly further into the same buffer. -/
theorem step_advances {σ : Type} (I : Iface σ) (c c' : Cfg σ) (h : unitStep I c = .next c') :
    c'.input.length < c.input.length ∧ c'.input <:+ c.input :=
  unitStep_next_lt I c c' h

/-- The tracing wrapper changes nothing but the log, and the log only grows. -/
theorem traced_same_behaviour {σ : Type} (I : Iface σ) (h : Node) (x : Bytes) (w : Writer) (s : σ)
    (l : List Ev) :
    runFrom I.traced h x w (s, l) =
      (runFrom I h x w s).withLog
        (l ++ runLog I (fun id tvs => [Ev.call id tvs]) (fun e => [Ev.error e]) h x w s) :=
  runFrom_instrument I _ _ h x w s l

/-- **Order of the observable events.**  With the tracing wrapper (every handler
invocation and every `onError` appends an event to a log; behaviour is otherwise
unchanged, see `traced_same_behaviour`) the events of a run are: those of the first
unit — its handler invocation, if any, BEFORE its error report, if any — followed by
the events of the run on the configuration that unit left. -/
theorem events_in_order {σ : Type} (I : Iface σ) (h : Node) (x : Bytes) (w : Writer) (s : σ)
    (hne : x ≠ []) :
    runLog I (fun id tvs => [Ev.call id tvs]) (fun e => [Ev.error e]) h x w s =
      unitLog I (fun id tvs => [Ev.call id tvs]) (fun e => [Ev.error e]) ⟨h, x, w, s⟩ ++
        match unitStep I ⟨h, x, w, s⟩ with
        | .stop _ => []
        | .next c => runLog I (fun id tvs => [Ev.call id tvs]) (fun e => [Ev.error e])
            c.header c.input c.w c.s :=
  runLog_step I _ _ h x w s hne

/-! ## T2.1 — the path rule -/

/-- **Common commands leave the path untouched**: an accepted `*` header reports no
path (`hdr = none`) and is looked up at the ROOT whatever the current path is; the
loop then keeps its path (`headerAfter … = h` unless the unit ended the message). -/
theorem common_keeps_path (root h : Node) (i rest : Bytes) (node : Node) (hdr : Option Node)
    (hc : commonHeader root i = .ok rest (node, hdr)) :
    hdr = none ∧ (∃ name, root.child (42 :: name) = some node) ∧
    ∀ call : CommandCall, call.header = hdr → call.terminated = false →
      headerAfter root h call = h := by
  obtain ⟨h1, h2⟩ := commonHeader_ok root i rest node hdr hc
  refine ⟨h1, h2, fun call hh ht => ?_⟩
  rw [headerAfter_of_not_terminated ht, hh, h1]
  rfl

/-- **A leading colon makes the unit absolute**: the compound header (hence the
whole header recogniser) gives the same result from every path … -/
theorem absolute_ignores_path (root h h' : Node) (i i1 : Bytes) (u : Unit)
    (hs : optP headerSeparator i = .ok i1 (some u)) :
    compoundHeader root h i = compoundHeader root h' i ∧
    commandHeader root h i = commandHeader root h' i :=
  ⟨compoundHeader_absolute root h h' i i1 u hs, commandHeader_absolute root h h' i i1 u hs⟩

/-- … and so does `parse` for a unit that begins (after white space) with a colon. -/
theorem absolute_unit_ignores_path (root h h' : Node) (input i1 i2 i3 : Bytes) (v : Option Bytes)
    (t : Option Nat) (u : Unit) (e1 : optP whitespace input = .ok i1 v)
    (e2 : optP (tag 10) i1 = .ok i2 t) (hs : optP headerSeparator i2 = .ok i3 (some u)) :
    parse root h input = parse root h' input := by
  unfold parse
  rw [e1]
  simp only [PResult.bind]
  rw [e2]
  simp only []
  rw [commandHeader_absolute root h h' i2 i3 u hs]

/-- **Without a colon the walk starts at the current path**; in both cases the header
is a walk down the tree: the node selected is reached from the start node (root if
there was a colon, else `h`) by the mnemonics `names`, and the path reported is the
node reached by all of them BUT THE LAST. -/
theorem relative_starts_at_path (root h : Node) (i rest : Bytes) (node : Node) (hdr : Option Node)
    (hc : compoundHeader root h i = .ok rest (node, hdr)) :
    ∃ (i1 : Bytes) (colon : Option Unit) (names : List Bytes),
      optP headerSeparator i = .ok i1 colon ∧ names ≠ [] ∧
      walkKeys (if colon.isSome then root else h) names = some node ∧
      hdr = walkKeys (if colon.isSome then root else h) names.dropLast ∧ hdr.isSome := by
  unfold compoundHeader at hc
  obtain ⟨i1, colon, e1, hc⟩ := bind_eq_ok hc
  simp only [] at hc
  obtain ⟨i2, res, _, hc⟩ := bind_eq_ok hc
  obtain ⟨child, hchild, hc⟩ := lookup_eq_ok hc
  obtain ⟨ks, hw, hh, hsome⟩ := headerRun_walk _ _ _ _ _ _ res hchild hc
  exact ⟨i1, colon, res :: ks, e1, by simp, hw, hh, hsome⟩

/-- **The new path is the header without its last mnemonic**: every accepted header is
either compound — then it reports a path `p` of which the selected node is a child —
or common — then it reports none. -/
theorem new_path_is_parent (root h : Node) (i rest : Bytes) (node : Node) (hdr : Option Node)
    (hc : commandHeader root h i = .ok rest (node, hdr)) :
    (compoundHeader root h i = .ok rest (node, hdr) ∧ ∃ p k, hdr = some p ∧ p.child k = some node) ∨
    (commonHeader root i = .ok rest (node, hdr) ∧ hdr = none) := by
  unfold commandHeader at hc
  rcases orElse_eq_ok hc with hc | hc
  · refine Or.inl ⟨hc, ?_⟩
    -- the walk without its last mnemonic ends at the parent
    obtain ⟨_, _, names, _, hne, hw, hh, _⟩ := relative_starts_at_path root h i rest node hdr hc
    obtain ⟨init, k, rfl⟩ : ∃ init k, names = init ++ [k] :=
      ⟨names.dropLast, names.getLast hne, (List.dropLast_concat_getLast hne).symm⟩
    rw [List.dropLast_concat] at hh
    rw [walkKeys_append] at hw
    obtain ⟨p, hp, hk⟩ := Option.bind_eq_some_iff.1 hw
    exact ⟨p, k, hh.trans hp, hk⟩
  · exact Or.inr ⟨hc, (commonHeader_ok root i rest node hdr hc).1⟩

/-- **The path the loop carries to the next unit.**  For an accepted unit the loop
continues with: the root if the unit was ended by the terminator; the parent of the
selected node if the header was compound; the old path if it was a common command. -/
theorem path_after_unit (root h : Node) (input r : Bytes) (call : CommandCall)
    (hp : parse root h input = .ok r (some call)) :
    (call.terminated = true → headerAfter root h call = root) ∧
    (call.terminated = false →
      (∃ p k, call.header = some p ∧ p.child k = some call.node ∧ headerAfter root h call = p) ∨
      (call.header = none ∧ headerAfter root h call = h)) := by
  obtain ⟨⟨i2, i3, _, hc⟩, _⟩ := parse_call root h input r call hp
  refine ⟨headerAfter_of_terminated, fun ht => ?_⟩
  rw [headerAfter_of_not_terminated ht]
  rcases new_path_is_parent root h i2 i3 _ _ hc with ⟨_, p, k, hh, hk⟩ | ⟨_, hh⟩
  · exact Or.inl ⟨p, k, hh, hk, hh ▸ rfl⟩
  · exact Or.inr ⟨hh, hh ▸ rfl⟩

/-- A unit is ended by the terminator iff `terminated`, else by `;`: the byte before
the rest `parse` returns. -/
theorem unit_separator (root h : Node) (input r : Bytes) (call : CommandCall)
    (hp : parse root h input = .ok r (some call)) :
    ((if call.terminated then 10 else 59) :: r) <:+ input :=
  (parse_call root h input r call hp).2.2

/-- Hypotheses of the path theorems on the demo tree: `*C;` is a common header … -/
example : ∃ rest node, commonHeader Demo.tree [42, 67, 59] = .ok rest (node, none) ∧ node.tag = 5 :=
  ⟨_, _, rfl, rfl⟩
/-- … `:X⏎` begins with a colon … -/
example : ∃ i1, optP headerSeparator [58, 88, 10] = .ok i1 (some ()) := ⟨_, rfl⟩
/-- … `B⏎` read at the path `S` selects `S:B` (node 4) and reports the path `S` (node 2) … -/
example : ∃ rest node p, compoundHeader Demo.tree Demo.nS [66, 10] = .ok rest (node, some p) ∧
    node.tag = 4 ∧ p.tag = 2 := ⟨_, _, _, rfl, rfl, rfl⟩
/-- … and `S:A;` is an accepted unit, not terminated, that leaves the path `S`. -/
example : ∃ r call, parse Demo.tree Demo.tree [83, 58, 65, 59] = .ok r (some call) ∧
    call.terminated = false ∧ (headerAfter Demo.tree Demo.tree call).tag = 2 :=
  ⟨_, _, rfl, rfl, rfl⟩

/-! ## T2.2 — no interpreter state survives a terminator -/

/-- **Isolation.**  Let `x` end with a terminator and be consumed completely by the
run (a sequence of complete messages — faulty or not; a trailing incomplete unit,
e.g. an unterminated string that swallowed the terminator, is excluded by
`rest = []`, and must be: what follows could complete it).  Then the path is back at
the root, and running on `x ++ y` is running on `x` and then on `y` FROM THE ROOT: the
only traces `x` leaves are in the writer and in the user's state. -/
theorem run_append_message {σ : Type} (I : Iface σ) (hOk : ParseFinalOk) (hErr : ParseFinalErr)
    (h : Node) (x : Bytes) (w : Writer) (s : σ) (hx : x.getLast? = some 10)
    (hrest : (runFrom I h x w s).rest = []) :
    (runFrom I h x w s).header = I.root ∧ (runFrom I h x w s).crash = none ∧
    ∀ y, runFrom I h (x ++ y) w s =
      runFrom I I.root y (runFrom I h x w s).w (runFrom I h x w s).s :=
  ⟨(runFrom_append_consumed I hOk hErr h x w s hx hrest).1,
   (runFrom_good I h x w s).1,
   (runFrom_append_consumed I hOk hErr h x w s hx hrest).2⟩

/-- The same for `run`: the handler a message selects never depends on any message
sent before it. -/
theorem run_append_message_run {σ : Type} (I : Iface σ) (hOk : ParseFinalOk) (hErr : ParseFinalErr)
    (x y : Bytes) (w : Writer) (s : σ) (hx : x.getLast? = some 10)
    (hrest : (run I x w s).rest = []) :
    run I (x ++ y) w s = run I y (run I x w s).w (run I x w s).s :=
  (run_append_message I hOk hErr I.root x w s hx hrest).2.2 y

/-- The premise `x.getLast? = some 10` cannot be dropped: after `S:A;` everything is
consumed but the path is `S` (node number 2), not the root (node number 0). -/
example : (run Demo.I [83, 58, 65, 59] Demo.W []).rest = [] ∧
    (run Demo.I [83, 58, 65, 59] Demo.W []).header.tag = 2 ∧ Demo.I.root.tag = 0 := by decide

/-- The premise `rest = []` cannot be dropped either: `x = T 'a⏎` ends with a newline
but is an incomplete unit (the string swallowed it; `rest = x`), and `y = b'⏎` completes
it — `x ++ y` runs handler 5, whereas `y` on its own is an undefined header. -/
example : [84, 32, 39, 97, (10 : Nat)].getLast? = some 10 ∧
    (run Demo.I [84, 32, 39, 97, 10] Demo.W []).rest = [84, 32, 39, 97, 10] ∧
    (run Demo.I ([84, 32, 39, 97, 10] ++ [98, 39, 10]) Demo.W []).s = [5] ∧
    (run Demo.I [98, 39, 10] Demo.W []).s = [99] := by decide +kernel

/-! ## Non-vacuity on the demo interface (`Scpi/Proofs/RunStepsDemo.lean`) -/

/-- `S:A;B⏎` runs `S:A` then `S:B`: the second unit is resolved relative to `S`. -/
example : (run Demo.I [83, 58, 65, 59, 66, 10] Demo.W []).s = [1, 2] := by decide +kernel
/-- `S:A;X⏎`: `X` is looked up under `S`, where it does not exist — one error, and `X`
(which exists at the root) is NOT run. -/
example : (run Demo.I [83, 58, 65, 59, 88, 10] Demo.W []).s = [1, 99] := by decide +kernel
/-- `S:A;:X⏎`: the colon makes it absolute. -/
example : (run Demo.I [83, 58, 65, 59, 58, 88, 10] Demo.W []).s = [1, 0] := by decide +kernel
/-- `S:A⏎X⏎`: the terminator resets the path. -/
example : (run Demo.I [83, 58, 65, 10, 88, 10] Demo.W []).s = [1, 0] := by decide +kernel
/-- `S:A;*C;B⏎`: the common command keeps the path `S` for `B`. -/
example : (run Demo.I [83, 58, 65, 59, 42, 67, 59, 66, 10] Demo.W []).s = [1, 3, 2] := by decide +kernel
/-- `S:A;:X;B⏎`: the absolute unit reset the path to the root, where `B` is unknown. -/
example : (run Demo.I [83, 58, 65, 59, 58, 88, 59, 66, 10] Demo.W []).s = [1, 0, 99] := by decide +kernel
/-- The premises of `run_append_message` are satisfiable (`x = "S:A;B⏎"`). -/
example : [83, 58, 65, 59, 66, (10 : Nat)].getLast? = some 10 ∧
    (run Demo.I [83, 58, 65, 59, 66, 10] Demo.W []).rest = [] := by decide +kernel
/-- … and its conclusion on a concrete `y = "B⏎"`: `B` alone is unknown at the root. -/
example : (run Demo.I ([83, 58, 65, 59, 66, 10] ++ [66, 10]) Demo.W []).s = [1, 2, 99] := by decide +kernel
/-- The events of `X?⏎`: the query handler (4), and its response `7⏎` is in the writer
before anything else happens. -/
example : (run Demo.I.traced [88, 63, 10] Demo.W ([], [])).s = ([4], [Ev.call 4 []]) ∧
    (run Demo.I [88, 63, 10] Demo.W []).w.buf = [55, 10] := by decide +kernel

end C02
end Scpi
