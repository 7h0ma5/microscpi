/-
C03 (conversion part) — "… integer literals in decimal or #H/#Q/#B notation converted
exactly to the declared integer type, decimal reals correctly rounded to f32/f64,
ON/OFF/1/0 booleans, and quoted strings and definite-length blocks byte for byte.  If a
literal does not fit the declared parameter - wrong kind of data (-104), not a
representable literal of that numeric type (-120), not a boolean (-224) - … the handler
is not invoked and exactly one error is reported.  A wrapped, truncated, sign-flipped,
re-based or defaulted value is never delivered."

This file is about `convert : Ty → Value → Except Err TVal` (`TryInto<T> for &Value`,
value.rs), the function the generated dispatcher applies to every parameter.  That a
failed conversion means "handler not invoked, exactly one error" is C06
(`Scpi.C06.execute_err_cases` case (c), `Scpi.C06.convertArgs_first_error`,
`Scpi.C06.one_error_per_unit`); here it is shown WHICH values convert, to WHAT, and
which error is produced otherwise.

The specification (`Scpi/Spec/Numerals.lean`) says what a numeral is and what it
means (`IsNumeral`, `digitsValue`) without reference to the model's `fromStrRadix`.

* T3.2 integers: `fromStrRadix_iff`, `convert_int_spec`, `convert_int_error_numeric`,
  `convert_int_error_kind`, `convert_int_never_wrong`.
* T3.4 booleans: `convert_bool_table` (+ `strBytes_ON` … for the eight character spellings).
* strings/blocks: `convert_str_bytes`, `convert_bytes_bytes`.
* T3.3 floats: `convert_f64_iff`, `convert_f32_iff` (conversion IS `parseFloat`), then the
  arithmetic heart, for every format with `mbits ≥ 1`, `ebits ≥ 2`.  For ALL `n/d` with `d > 0`,
  `n = 0` included: `roundRat_finite_or_inf`, `roundRat_inf_iff`, `roundRat_zero_iff`.  For
  `n > 0`, `d > 0` — normal, sub-normal, underflow to zero, overflow alike: `roundRat_nearest`
  (nearest, ties to even, among all patterns up to the infinity pattern) and
  `roundRat_nearest_finite`.  For binary32 and binary64: `roundDec_shortcuts_sound`.  Then
  `parseNumberBody_iff` (the number grammar reads what is written), `parseFloat_correct` (text →
  exact rational → nearest float, end to end), `parseFloat_nonnumber`.
  The value of a bit pattern is `fscaled f bits / funitDen f` (`Scpi/Spec/Numerals.lean`;
  `fscaled_spec` links it to significand and exponent); distances are cross-multiplied
  (`fdist`), so no rational numbers are needed.

Not in this file (a fact about the SCPI recogniser `decimal` of Lex.lean, not about
conversion): `decimal` takes every well-formed decimal spelling `d : DecText` as
`.dec d.render` (`decimal_verbatim`, `Scpi/Props/C03Lex.lean`), and that text is an
`IsDecimalText` after its sign and converts to a float, not to -120 (`decText_denotes`,
`decimal_literal_converts`, `Scpi/Props/C03Float.lean`).
-/
import Scpi.Proofs.ConvInt
import Scpi.Proofs.ConvDec
import Scpi.Proofs.ConvDecText

namespace Scpi
namespace C03

/-! ## The error numbers named in the property -/

theorem error_numbers :
    (Err.std .DataTypeError).number = -104 ∧ (Err.std .NumericDataError).number = -120 ∧
    (Err.std .IllegalParameterValue).number = -224 := ⟨rfl, rfl, rfl⟩

/-! ## T3.2 — integers -/

/-- **T3.2 `from_str_radix` is exact or nothing.**  For every signedness, width, radix
and text: the result is `some v` iff the text is a numeral of that radix (optional `+`,
`-` only for a signed type, at least one digit, all digits valid in the radix) whose
MATHEMATICAL value `v` lies in the range of the type.  Hence a value that is wrapped
(256 ↦ 0), truncated, sign-flipped (#H80 ↦ -128 for `i8`), read in another radix, or
defaulted is never returned: whatever is returned is the value of the numeral.
(No condition on the radix is needed; the library uses 2, 8, 10 and 16.) -/
theorem fromStrRadix_iff (signed : Bool) (bits radix : Nat) (s : Bytes) (v : Int) :
    fromStrRadix signed bits radix s = some v ↔
      IsNumeral signed radix s v ∧ intMin signed bits ≤ v ∧ v ≤ intMax signed bits :=
  fromStrRadix_eq_some_iff signed bits radix s v

/-- A numeral has one value only, so `fromStrRadix_iff` determines the result. -/
theorem numeral_value_unique {signed : Bool} {radix : Nat} {s : Bytes} {v v' : Int}
    (h : IsNumeral signed radix s v) (h' : IsNumeral signed radix s v') : v = v' := by
  cases s with
  | nil => exact (not_isNumeral_nil h).elim
  | cons b rest =>
    obtain ⟨-, m, hm, rfl⟩ := isNumeral_cons_iff.mp h
    obtain ⟨-, m', hm', rfl⟩ := isNumeral_cons_iff.mp h'
    rw [hm] at hm'
    cases hm'
    rfl

theorem numKind_or_nonNumeric (v : Value) : (∃ radix s, NumKind v radix s) ∨ NonNumeric v := by
  cases v with
  | str s => exact Or.inr ⟨s, Or.inl rfl⟩
  | chars s => exact Or.inr ⟨s, Or.inr (Or.inl rfl)⟩
  | arb s => exact Or.inr ⟨s, Or.inr (Or.inr rfl)⟩
  | dec s => exact Or.inl ⟨_, _, .dec s⟩
  | hex s => exact Or.inl ⟨_, _, .hex s⟩
  | bin s => exact Or.inl ⟨_, _, .bin s⟩
  | oct s => exact Or.inl ⟨_, _, .oct s⟩

/-- For an integer type `convert` is `convertInt` with that type's signedness and width. -/
theorem convert_int_eq {ty : Ty} {sg : Bool} {bits : Nat} (h : ty.intInfo = some (sg, bits))
    (v : Value) : convert ty v = convertInt ty sg bits v := by
  cases ty <;> cases h
  all_goals rfl

/-- **T3.2 — conversion to each of the ten integer types is exact.**  For `ty` one of
`u8 i8 u16 i16 u32 i32 u64 i64 usize isize` (signedness `sg`, width `bits`):
`convert ty v` succeeds with `tv` iff `v` is numeric program data — decimal (radix 10),
`#H` (16), `#B` (2) or `#Q` (8) — whose text is a numeral of that radix with
mathematical value `n`, `n` is in the range of `ty`, and `tv` is that `n` at type `ty`. -/
theorem convert_int_spec (ty : Ty) (sg : Bool) (bits : Nat) (h : ty.intInfo = some (sg, bits))
    (v : Value) (tv : TVal) :
    convert ty v = .ok tv ↔
      ∃ radix s n, NumKind v radix s ∧ IsNumeral sg radix s n ∧
        intMin sg bits ≤ n ∧ n ≤ intMax sg bits ∧ tv = .int ty n := by
  rw [convert_int_eq h]
  rcases numKind_or_nonNumeric v with ⟨radix, s, hk⟩ | hv
  · rw [convertInt_numKind hk]
    constructor
    · intro hc
      cases hf : fromStrRadix sg bits radix s with
      | none =>
        rw [hf] at hc
        cases hc
      | some n =>
        rw [hf] at hc
        cases hc
        obtain ⟨h1, h2, h3⟩ := (fromStrRadix_iff sg bits radix s n).mp hf
        exact ⟨radix, s, n, hk, h1, h2, h3, rfl⟩
    · rintro ⟨radix', s', n, hk', h1, h2, h3, rfl⟩
      obtain ⟨rfl, rfl⟩ := hk.unique hk'
      rw [(fromStrRadix_iff sg bits radix' s' n).mpr ⟨h1, h2, h3⟩]
  · rw [convertInt_nonNumeric hv]
    refine ⟨fun hc => (by cases hc), fun ⟨_, _, _, hk, _⟩ => ?_⟩
    obtain ⟨s, rfl | rfl | rfl⟩ := hv <;> cases hk

/-- **-120 for numeric data that is not a representable literal of the type.**  For
numeric program data of radix `radix` and text `s`, conversion to the integer type
fails iff `s` is not a numeral (of that radix, `-` only if signed) with a value in the
range of the type — and the error is then `NumericDataError` (-120), nothing else. -/
theorem convert_int_error_numeric (ty : Ty) (sg : Bool) (bits : Nat)
    (h : ty.intInfo = some (sg, bits)) (v : Value) (radix : Nat) (s : Bytes)
    (hk : NumKind v radix s) :
    (convert ty v = .error (.std .NumericDataError) ↔
      ¬ ∃ n, IsNumeral sg radix s n ∧ intMin sg bits ≤ n ∧ n ≤ intMax sg bits) ∧
    (∀ e, convert ty v = .error e → e = .std .NumericDataError) := by
  rw [convert_int_eq h, convertInt_numKind hk]
  cases hf : fromStrRadix sg bits radix s with
  | none =>
    refine ⟨⟨fun _ ⟨n, hn⟩ => ?_, fun _ => rfl⟩, fun e he => (Except.error.inj he).symm⟩
    have := (fromStrRadix_iff sg bits radix s n).mpr hn
    rw [hf] at this
    cases this
  | some n =>
    refine ⟨⟨fun h => (by cases h), fun hne => ?_⟩, fun e he => (by cases he)⟩
    exact absurd ⟨n, (fromStrRadix_iff sg bits radix s n).mp hf⟩ hne

/-- **-104 for the wrong kind of data.**  String, character and block data never
convert to an integer type: `DataTypeError` (-104). -/
theorem convert_int_error_kind (ty : Ty) (sg : Bool) (bits : Nat)
    (h : ty.intInfo = some (sg, bits)) (v : Value) (hv : NonNumeric v) :
    convert ty v = .error (.std .DataTypeError) := by
  rw [convert_int_eq h, convertInt_nonNumeric hv]

/-- **Never a wrong value.**  Whatever `convert` delivers for an integer type is an
`.int` of that very type whose value is the mathematical value of the literal, in
range; in every other case the result is one of the two errors -120 / -104 (so there
is no third outcome: no default, no partial value). -/
theorem convert_int_never_wrong (ty : Ty) (sg : Bool) (bits : Nat)
    (h : ty.intInfo = some (sg, bits)) (v : Value) :
    (∃ radix s n, NumKind v radix s ∧ IsNumeral sg radix s n ∧ intMin sg bits ≤ n ∧
        n ≤ intMax sg bits ∧ convert ty v = .ok (.int ty n)) ∨
    ((∃ radix s, NumKind v radix s) ∧ convert ty v = .error (.std .NumericDataError)) ∨
    (NonNumeric v ∧ convert ty v = .error (.std .DataTypeError)) := by
  rcases numKind_or_nonNumeric v with ⟨radix, s, hk⟩ | hv
  · cases hc : convert ty v with
    | ok tv =>
      obtain ⟨radix', s', n, hk', h1, h2, h3, rfl⟩ := (convert_int_spec ty sg bits h v tv).mp hc
      exact Or.inl ⟨radix', s', n, hk', h1, h2, h3, rfl⟩
    | error e =>
      have := (convert_int_error_numeric ty sg bits h v radix s hk).2 e hc
      subst this
      exact Or.inr (Or.inl ⟨⟨radix, s, hk⟩, rfl⟩)
  · exact Or.inr (Or.inr ⟨hv, convert_int_error_kind ty sg bits h v hv⟩)

/-- The ranges of the eight integer types of fixed width, spelled out (`usize`/`isize` are
64 bit in `Ty.intInfo`). -/
theorem int_ranges :
    (intMin false 8 = 0 ∧ intMax false 8 = 255) ∧ (intMin true 8 = -128 ∧ intMax true 8 = 127) ∧
    (intMin false 16 = 0 ∧ intMax false 16 = 65535) ∧
    (intMin true 16 = -32768 ∧ intMax true 16 = 32767) ∧
    (intMin false 32 = 0 ∧ intMax false 32 = 4294967295) ∧
    (intMin true 32 = -2147483648 ∧ intMax true 32 = 2147483647) ∧
    (intMin false 64 = 0 ∧ intMax false 64 = 18446744073709551615) ∧
    (intMin true 64 = -9223372036854775808 ∧ intMax true 64 = 9223372036854775807) := by
  decide +kernel

/-! ### Non-vacuity (integers) -/

/-- `255` fits `u8` … -/
example : convert .u8 (.dec [50, 53, 53]) = .ok (.int .u8 255) := rfl
/-- … `256` does not: -120, not 0. -/
example : convert .u8 (.dec [50, 53, 54]) = .error (.std .NumericDataError) := rfl
/-- `#H80` is 128, which is not an `i8`: -120, not -128. -/
example : convert .i8 (.hex [56, 48]) = .error (.std .NumericDataError) := rfl
/-- `-128` is an `i8`. -/
example : convert .i8 (.dec [45, 49, 50, 56]) = .ok (.int .i8 (-128)) := rfl
/-- `-1` is not a `u8` (no sign flip, no wrap to 255). -/
example : convert .u8 (.dec [45, 49]) = .error (.std .NumericDataError) := rfl
/-- `#Q17` is 15, `#B101` is 5, `#HfF` is 255. -/
example : convert .u16 (.oct [49, 55]) = .ok (.int .u16 15) ∧
    convert .u16 (.bin [49, 48, 49]) = .ok (.int .u16 5) ∧
    convert .u16 (.hex [102, 70]) = .ok (.int .u16 255) := ⟨rfl, rfl, rfl⟩
/-- `1.0` and `1e2` are decimal program data but not integer literals: -120. -/
example : convert .i32 (.dec [49, 46, 48]) = .error (.std .NumericDataError) ∧
    convert .i32 (.dec [49, 101, 50]) = .error (.std .NumericDataError) := ⟨rfl, rfl⟩
/-- A string is the wrong kind of data: -104. -/
example : convert .i32 (.str [49]) = .error (.std .DataTypeError) := rfl
/-- The hypotheses of `convert_int_spec` are satisfiable: `+7F` in radix 16 is 127. -/
example : IsNumeral true 16 [43, 55, 70] 127 :=
  IsNumeral.plus [55, 70] [7, 15] (by simp) ⟨by decide +kernel, by decide +kernel⟩
example : IsNumeral true 10 [45, 49, 50, 56] (-128) :=
  IsNumeral.minus [49, 50, 56] [1, 2, 8] rfl (by simp) ⟨by decide +kernel, by decide +kernel⟩

/-! ## T3.4 — booleans -/

theorem strBytes_ON : strBytes "ON" = [79, 78] := by decide +kernel
theorem strBytes_on : strBytes "on" = [111, 110] := by decide +kernel
theorem strBytes_TRUE : strBytes "TRUE" = [84, 82, 85, 69] := by decide +kernel
theorem strBytes_true : strBytes "true" = [116, 114, 117, 101] := by decide +kernel
theorem strBytes_OFF : strBytes "OFF" = [79, 70, 70] := by decide +kernel
theorem strBytes_off : strBytes "off" = [111, 102, 102] := by decide +kernel
theorem strBytes_FALSE : strBytes "FALSE" = [70, 65, 76, 83, 69] := by decide +kernel
theorem strBytes_false : strBytes "false" = [102, 97, 108, 115, 101] := by decide +kernel

/-- The five spellings of *true*: character data `ON`, `on`, `TRUE`, `true`, decimal `1`. -/
def trueSpellings : List Value :=
  [.chars [79, 78], .chars [111, 110], .chars [84, 82, 85, 69], .chars [116, 114, 117, 101],
   .dec [49]]

/-- The five spellings of *false*: `OFF`, `off`, `FALSE`, `false`, decimal `0`. -/
def falseSpellings : List Value :=
  [.chars [79, 70, 70], .chars [111, 102, 102], .chars [70, 65, 76, 83, 69],
   .chars [102, 97, 108, 115, 101], .dec [48]]

/-- `convertBool` with the literals evaluated. -/
theorem convertBool_eq (v : Value) :
    convertBool v =
      if v ∈ trueSpellings then .ok (.bool true)
      else if v ∈ falseSpellings then .ok (.bool false)
      else .error (.std .IllegalParameterValue) := by
  cases v with
  | chars s =>
    simp only [convertBool, strBytes_ON, strBytes_on, strBytes_TRUE, strBytes_true, strBytes_OFF,
      strBytes_off, strBytes_FALSE, strBytes_false, trueSpellings, falseSpellings, Bool.or_eq_true,
      beq_iff_eq, or_assoc, List.mem_cons, Value.chars.injEq, reduceCtorEq, List.not_mem_nil,
      or_false]
  | dec s =>
    simp only [convertBool, trueSpellings, falseSpellings, beq_iff_eq, List.mem_cons,
      Value.dec.injEq, reduceCtorEq, List.not_mem_nil, or_false, false_or]
  | _ => rfl

/-- **T3.4 — the Boolean table.**  `convert .bool v` is `true` exactly for the five
spellings `ON on TRUE true 1`, `false` exactly for `OFF off FALSE false 0`, and
`IllegalParameterValue` (-224) for EVERYTHING else, whatever the kind of data — mixed
case (`On`), other numbers (`2`, `01`, `1.0`, `+1`), `#H1`, strings, blocks. -/
theorem convert_bool_table (v : Value) :
    (convert .bool v = .ok (.bool true) ↔ v ∈ trueSpellings) ∧
    (convert .bool v = .ok (.bool false) ↔ v ∈ falseSpellings) ∧
    (v ∉ trueSpellings → v ∉ falseSpellings →
      convert .bool v = .error (.std .IllegalParameterValue)) ∧
    (∀ e, convert .bool v = .error e → e = .std .IllegalParameterValue) ∧
    (∀ tv, convert .bool v = .ok tv → ∃ b, tv = .bool b) := by
  have hdisj : ∀ v ∈ trueSpellings, v ∉ falseSpellings := by decide +kernel
  show (convertBool v = _ ↔ _) ∧ (convertBool v = _ ↔ _) ∧ (_ → _ → convertBool v = _) ∧
    (∀ e, convertBool v = _ → _) ∧ (∀ tv, convertBool v = _ → _)
  rw [convertBool_eq]
  by_cases ht : v ∈ trueSpellings
  · have hf := hdisj v ht
    simp [ht, hf]
  · by_cases hf : v ∈ falseSpellings
    · simp [ht, hf]
    · simp [ht, hf]

example : convert .bool (.chars [79, 78]) = .ok (.bool true) := by
  rw [(convert_bool_table _).1]
  decide +kernel
example : convert .bool (.chars [111, 102, 102]) = .ok (.bool false) := by
  rw [(convert_bool_table _).2.1]
  decide +kernel
example : convert .bool (.dec [49]) = .ok (.bool true) := rfl
example : convert .bool (.dec [48]) = .ok (.bool false) := rfl
/-- `On` (mixed case), `2`, `1.0`, `#H1` and the string `"ON"` are not Booleans. -/
example : convert .bool (.chars [79, 110]) = .error (.std .IllegalParameterValue) :=
  (convert_bool_table _).2.2.1 (by decide +kernel) (by decide +kernel)
example : convert .bool (.dec [50]) = .error (.std .IllegalParameterValue) := rfl
example : convert .bool (.dec [49, 46, 48]) = .error (.std .IllegalParameterValue) := rfl
example : convert .bool (.hex [49]) = .error (.std .IllegalParameterValue) := rfl
example : convert .bool (.str [79, 78]) = .error (.std .IllegalParameterValue) := rfl

/-! ## Strings and blocks -/

/-- **Strings byte for byte.**  `convert .str v` succeeds iff `v` is (quoted) string
data, and delivers exactly its bytes; every other kind of data is -104. -/
theorem convert_str_bytes (v : Value) (tv : TVal) :
    (convert .str v = .ok tv ↔ ∃ s, v = .str s ∧ tv = .str s) ∧
    ((∀ s, v ≠ .str s) → convert .str v = .error (.std .DataTypeError)) ∧
    (∀ e, convert .str v = .error e → e = .std .DataTypeError) := by
  cases v <;> simp [convert, eq_comm]

/-- **Blocks byte for byte.**  `convert .bytes v` succeeds iff `v` is a definite-length
block, and delivers exactly its bytes; every other kind of data is -104. -/
theorem convert_bytes_bytes (v : Value) (tv : TVal) :
    (convert .bytes v = .ok tv ↔ ∃ s, v = .arb s ∧ tv = .bytes s) ∧
    ((∀ s, v ≠ .arb s) → convert .bytes v = .error (.std .DataTypeError)) ∧
    (∀ e, convert .bytes v = .error e → e = .std .DataTypeError) := by
  cases v <;> simp [convert, eq_comm]

example : convert .str (.str [34, 0, 255, 10]) = .ok (.str [34, 0, 255, 10]) := rfl
example : convert .bytes (.arb [0, 10, 255]) = .ok (.bytes [0, 10, 255]) := rfl
example : convert .str (.chars [65]) = .error (.std .DataTypeError) := rfl
example : convert .bytes (.str [65]) = .error (.std .DataTypeError) := rfl

/-! ## T3.3 — floats: what `convert` does -/

/-- `convert .f64`: decimal program data is handed to `str::parse::<f64>`
(`parseFloat fmt64`); its result is delivered unchanged; unparsable text is -120; any
other kind of data is -104. -/
theorem convert_f64_iff (v : Value) (tv : TVal) :
    (convert .f64 v = .ok tv ↔ ∃ s b, v = .dec s ∧ parseFloat fmt64 s = some b ∧ tv = .f64 b) ∧
    (∀ s, v = .dec s → parseFloat fmt64 s = none →
      convert .f64 v = .error (.std .NumericDataError)) ∧
    ((∀ s, v ≠ .dec s) → convert .f64 v = .error (.std .DataTypeError)) :=
  convertFloat_iff fmt64 .f64 v tv

theorem convert_f32_iff (v : Value) (tv : TVal) :
    (convert .f32 v = .ok tv ↔ ∃ s b, v = .dec s ∧ parseFloat fmt32 s = some b ∧ tv = .f32 b) ∧
    (∀ s, v = .dec s → parseFloat fmt32 s = none →
      convert .f32 v = .error (.std .NumericDataError)) ∧
    ((∀ s, v ≠ .dec s) → convert .f32 v = .error (.std .DataTypeError)) :=
  convertFloat_iff fmt32 .f32 v tv

/-- On decimal data, `convert` IS `parseFloat`. -/
theorem convert_f64_dec (s : Bytes) (b : Nat) :
    convert .f64 (.dec s) = .ok (.f64 b) ↔ parseFloat fmt64 s = some b := by
  rw [(convert_f64_iff _ _).1]
  simp

theorem convert_f32_dec (s : Bytes) (b : Nat) :
    convert .f32 (.dec s) = .ok (.f32 b) ↔ parseFloat fmt32 s = some b := by
  rw [(convert_f32_iff _ _).1]
  simp

/-! ## T3.3 — floats: correct rounding

`roundRat f n d` is the function that turns the exact rational `n/d` into a bit pattern
(without sign).  The value of a pattern `u ≤ f.infBits` is `fscaled f u / funitDen f`
(for `u = f.infBits` this is `2^(expMax - bias)`, the value the first binade beyond the
finite range would start with — the reference point IEEE 754 uses to decide overflow),
and `fdist f n d u = |fscaled f u · d - n · funitDen f|` is `|value u - n/d|` multiplied
by the positive constant `d · funitDen f`.  -/

/-- The grid value of a pattern from its significand and exponent:
`fscaled = fmant · 2^(fexp - (1 - bias - mbits))`, the exponent difference being
`E - 1` (`0` for sub-normals); i.e. `value = fmant · 2^fexp = fscaled / 2^(bias+mbits-1)`. -/
theorem fscaled_spec (f : FloatFmt) (bits : Nat) :
    0 ≤ fexp f bits + f.bias + f.mbits - 1 ∧
    fscaled f bits = fmant f bits * 2 ^ (fexp f bits + f.bias + f.mbits - 1).toNat := by
  have h : fexp f bits + f.bias + f.mbits - 1 = ((f.expOf bits - 1 : Nat) : Int) := by
    unfold fexp
    split <;> omega
  rw [h]
  exact ⟨Int.natCast_nonneg _, rfl⟩

/-- The grid is strictly increasing in the bit pattern (so patterns and values
correspond one to one, `+0` ↦ 0, pattern 1 ↦ the smallest sub-normal, …). -/
theorem fscaled_strictMono (f : FloatFmt) (u v : Nat) (huv : u < v) (hv : v ≤ f.infBits) :
    fscaled f u < fscaled f v := fscaled_lt f u v huv hv

/-- **(a) The result is a finite pattern or the infinity pattern** — never a NaN, never
a pattern with the sign bit or beyond. -/
theorem roundRat_finite_or_inf (f : FloatFmt) (hm : 1 ≤ f.mbits) (he : 2 ≤ f.ebits) (n d : Nat)
    (hd : 0 < d) : roundRat f n d < f.infBits ∨ roundRat f n d = f.infBits :=
  Nat.lt_or_eq_of_le (roundRat_le_infBits f hm he n d hd)

/-- **T3.3 — `roundRat` rounds to nearest, ties to even.**  For every format with at
least one fraction bit and two exponent bits (binary32 and binary64 in particular) and
every positive rational `n/d`: with `b = roundRat f n d`, for EVERY pattern `u` up to the
infinity pattern,

* `|value b - n/d| ≤ |value u - n/d|`  (nearest), and
* if the distances are equal and `u ≠ b`, the fraction field of `b` is even (ties to even).

This covers normal and sub-normal results, underflow to zero and overflow (the infinity
pattern takes part with the value `2^(expMax-bias)`, see `roundRat_inf_iff`). -/
theorem roundRat_nearest (f : FloatFmt) (hm : 1 ≤ f.mbits) (he : 2 ≤ f.ebits) (n d : Nat)
    (hn : 0 < n) (hd : 0 < d) (u : Nat) (hu : u ≤ f.infBits) :
    fdist f n d (roundRat f n d) ≤ fdist f n d u ∧
    (fdist f n d (roundRat f n d) = fdist f n d u → u ≠ roundRat f n d →
      f.fracOf (roundRat f n d) % 2 = 0) := by
  obtain ⟨hb, hmid⟩ := roundRat_mid f hm he n d (Nat.ne_of_gt hn) hd
  obtain ⟨m1, m2, m3⟩ := hmid u hu
  obtain ⟨h1, h2⟩ := absDiff_le_of_mid m1 m2
  -- different patterns have different values
  have hval : u ≠ roundRat f n d → fscaled f u * d ≠ fscaled f (roundRat f n d) * d :=
    fun hne h => hne (fscaled_inj f u _ hu hb (Nat.eq_of_mul_eq_mul_right hd h))
  rw [fracOf_mod_two f hm]
  exact ⟨h1, fun e hne => m3 (hval hne) (h2 e (hval hne))⟩

/-- The form with finite patterns only: a finite result is nearest among the finite
values, ties to even. -/
theorem roundRat_nearest_finite (f : FloatFmt) (hm : 1 ≤ f.mbits) (he : 2 ≤ f.ebits) (n d : Nat)
    (hn : 0 < n) (hd : 0 < d) (_hb : roundRat f n d < f.infBits) (u : Nat) (hu : u < f.infBits) :
    fdist f n d (roundRat f n d) ≤ fdist f n d u ∧
    (fdist f n d (roundRat f n d) = fdist f n d u → u ≠ roundRat f n d →
      f.fracOf (roundRat f n d) % 2 = 0) :=
  roundRat_nearest f hm he n d hn hd u (Nat.le_of_lt hu)

/-- **Overflow exactly from the midpoint up.**  The result is the infinity pattern iff
`n/d ≥ (maxFinite + 2^(expMax-bias)) / 2 = maxFinite + ulp/2` — in particular ONLY IF;
below that the result is finite.  (`fscaled_maxFinite`, `fscaled_inf` give the two grid
values in closed form.) -/
theorem roundRat_inf_iff (f : FloatFmt) (hm : 1 ≤ f.mbits) (he : 2 ≤ f.ebits) (n d : Nat)
    (hd : 0 < d) :
    roundRat f n d = f.infBits ↔
      (fscaled f (f.infBits - 1) + fscaled f f.infBits) * d ≤ 2 * (n * funitDen f) :=
  roundRat_eq_infBits_iff f hm he n d hd

/-- **Zero exactly up to half the smallest sub-normal**: `n/d ≤ 2^(-bias-mbits)`. -/
theorem roundRat_zero_iff (f : FloatFmt) (hm : 1 ≤ f.mbits) (he : 2 ≤ f.ebits) (n d : Nat)
    (hd : 0 < d) : roundRat f n d = 0 ↔ 2 * (n * funitDen f) ≤ d :=
  roundRat_eq_zero_iff f hm he n d hd

/-- **The magnitude shortcuts of `roundDec` are sound** for binary32 and binary64:
`roundDec f mant exp10` (which answers infinity for `mant · 10^exp10 ≥ 10^400` and zero
below `10^-401` without computing) equals `roundRat` applied to the exact value
`mant · 10^exp10` as a fraction. -/
theorem roundDec_shortcuts_sound (f : FloatFmt) (hf : f = fmt32 ∨ f = fmt64) (mant : Nat)
    (exp10 : Int) : roundDec f mant exp10 = roundDecExact f mant exp10 := by
  rcases hf with rfl | rfl
  · exact roundDec_eq_exact fmt32 (by decide) (by decide) (by decide +kernel) (by decide +kernel)
      mant exp10
  · exact roundDec_eq_exact fmt64 (by decide) (by decide) (by decide +kernel) (by decide +kernel)
      mant exp10

/-- **From the grammar's reading to the float.**  If the text after an optional sign is a
decimal number that `parseNumberBody` reads as `mant · 10^exp10`, then `parseFloat`
delivers the correctly rounded pattern of exactly that rational (`roundDecExact`, i.e.
`roundRat` — nearest, ties to even, by `roundRat_nearest`), with the sign bit set iff
the text starts with `-`. -/
theorem parseFloat_number (f : FloatFmt) (hf : f = fmt32 ∨ f = fmt64) (c : Nat) (rest : Bytes)
    (mant : Nat) (exp10 : Int)
    (h : parseNumberBody (if c = 45 ∨ c = 43 then rest else c :: rest) = some (mant, exp10)) :
    parseFloat f (c :: rest) =
      some (roundDecExact f mant exp10 + (if c = 45 then f.signBit else 0)) := by
  rw [parseFloat_cons]
  simp only [h, roundDec_shortcuts_sound f hf]

/-- **The number grammar reads what is written.**  `parseNumberBody s` (the grammar of
`core::num::dec2flt`) succeeds with `(mant, exp10)` iff `s` is a decimal real literal
— digits, optional `.` and digits, at least one digit in all, optional exponent
`e`/`E` [sign] digits — and `mant · 10^exp10` is the number it denotes
(`IsDecimalText`, `Scpi/Spec/Numerals.lean`). -/
theorem parseNumberBody_iff (s : Bytes) (mant : Nat) (exp10 : Int) :
    parseNumberBody s = some (mant, exp10) ↔ IsDecimalText s mant exp10 :=
  parseNumberBody_eq_some_iff s mant exp10

/-- **T3.3 end to end — decimal reals are correctly rounded.**  If the text after the
optional sign is a decimal real literal denoting `mant · 10^exp10`, then `parseFloat`
— hence `convert .f32` / `convert .f64` — delivers `roundRat` of exactly that rational
(nearest, ties to even: `roundRat_nearest`; infinity/zero only beyond the midpoints:
`roundRat_inf_iff`, `roundRat_zero_iff`), with the sign bit set iff the text starts
with `-`. -/
theorem parseFloat_correct (f : FloatFmt) (hf : f = fmt32 ∨ f = fmt64) (c : Nat) (rest : Bytes)
    (mant : Nat) (exp10 : Int)
    (h : IsDecimalText (if c = 45 ∨ c = 43 then rest else c :: rest) mant exp10) :
    parseFloat f (c :: rest) =
      some ((if exp10 ≥ 0 then roundRat f (mant * 10 ^ exp10.toNat) 1
             else roundRat f mant (10 ^ (-exp10).toNat)) +
            (if c = 45 then f.signBit else 0)) :=
  parseFloat_number f hf c rest mant exp10 ((parseNumberBody_iff _ _ _).mpr h)

theorem strBytes_nan' : strBytes "nan" = [110, 97, 110] := by decide +kernel
theorem strBytes_inf' : strBytes "inf" = [105, 110, 102] := by decide +kernel
theorem strBytes_infinity : strBytes "infinity" = [105, 110, 102, 105, 110, 105, 116, 121] := by
  decide +kernel

/-- **Text that is not a number.**  When the text after the optional sign is not a
decimal number, `parseFloat` (as `f64::from_str`) accepts only `nan`, `inf` and
`infinity` in any letter case, and fails on everything else — whence -120 in
`convert_f64_iff`.  (The SCPI recogniser for decimal data never produces such text.) -/
theorem parseFloat_nonnumber (f : FloatFmt) (c : Nat) (rest : Bytes)
    (h : parseNumberBody (if c = 45 ∨ c = 43 then rest else c :: rest) = none) :
    parseFloat f (c :: rest) =
      (if (if c = 45 ∨ c = 43 then rest else c :: rest).map lowerAscii = [110, 97, 110] then
        some (f.nanBits + (if c = 45 then f.signBit else 0))
      else if (if c = 45 ∨ c = 43 then rest else c :: rest).map lowerAscii = [105, 110, 102] ∨
          (if c = 45 ∨ c = 43 then rest else c :: rest).map lowerAscii =
            [105, 110, 102, 105, 110, 105, 116, 121] then
        some (f.infBits + (if c = 45 then f.signBit else 0))
      else none) := by
  rw [parseFloat_cons]
  simp only [h, strBytes_nan', strBytes_inf', strBytes_infinity, beq_iff_eq, Bool.or_eq_true]

/-! ### Non-vacuity (floats) -/

/-- `0.1` is `0x3FB999999999999A` in binary64 … -/
example : parseFloat fmt64 [48, 46, 49] = some 0x3FB999999999999A := by decide +kernel
example : convert .f64 (.dec [48, 46, 49]) = .ok (.f64 0x3FB999999999999A) :=
  (convert_f64_dec _ _).2 (by decide +kernel)
/-- … and `16777217 = 2^24 + 1` is a tie in binary32, resolved to the even `2^24`. -/
example : parseFloat fmt32 [49, 54, 55, 55, 55, 50, 49, 55] = some 0x4B800000 := by decide +kernel
/-- `-2.5e-1` sets the sign bit. -/
example : parseFloat fmt64 [45, 50, 46, 53, 101, 45, 49] = some (0x3FD0000000000000 + 2 ^ 63) := by
  decide +kernel
/-- Premise of `parseFloat_number` on `0.1`: mantissa 1, exponent -1. -/
example : parseNumberBody [48, 46, 49] = some (1, -1) := by decide +kernel
/-- Premise of `parseFloat_correct` on `2.5e-1`: it denotes `25 · 10^-2`. -/
example : IsDecimalText [50, 46, 53, 101, 45, 49] 25 (-2) :=
  ⟨[50], [53], [101, 45, 49], -1, by unfold AllDigits; decide, by unfold AllDigits; decide,
   by decide, IsExponent.minus 101 [49] (Or.inr rfl) (by decide) (by unfold AllDigits; decide),
   Or.inr rfl, by decide, by decide⟩
/-- Overflow and underflow: `1e309` is infinity, `1e-400` is zero, `1e999999` and
`1e-999999` take the shortcuts. -/
example : parseFloat fmt64 [49, 101, 51, 48, 57] = some fmt64.infBits := by decide +kernel
example : parseFloat fmt64 [49, 101, 45, 52, 48, 48] = some 0 := by decide +kernel
example : roundDec fmt64 1 999999 = fmt64.infBits ∧ roundDec fmt64 1 (-999999) = 0 := by
  decide +kernel
/-- The largest finite binary64 value and the overflow midpoint. -/
example : roundRat fmt64 (2 ^ 1024 - 2 ^ 970 - 1) 1 = fmt64.infBits - 1 ∧
    roundRat fmt64 (2 ^ 1024 - 2 ^ 970) 1 = fmt64.infBits := by decide +kernel
/-- The smallest sub-normal `2^-1074` and the underflow midpoint `2^-1075` (tie → 0). -/
example : roundRat fmt64 1 (2 ^ 1074) = 1 ∧ roundRat fmt64 1 (2 ^ 1075) = 0 ∧
    roundRat fmt64 3 (2 ^ 1076) = 1 := by decide +kernel
/-- A `.dec` value whose text (`.`) is no number: -120; `ABC` → -104. -/
example : convert .f64 (.dec [46]) = .error (.std .NumericDataError) :=
  (convert_f64_iff _ (.f64 0)).2.1 _ rfl (by decide +kernel)
example : convert .f64 (.chars [65, 66, 67]) = .error (.std .DataTypeError) := by rfl

end C03
end Scpi
