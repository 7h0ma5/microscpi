/-
C07 + C11 — `process` on well-formed traffic is given by the byte-free specification.

Combines the chunk-independence theorem `Scpi.C07.process_eq_runs` (Scpi/Props/C07.lean)
with the message-level refinement `Scpi.Msg.run_render_run` (Scpi/Props/RunRender.lean).

Specification (`Scpi.Combo.specMessages`, Scpi/Proofs/StreamRender.lean — no bytes, no white
space, no parser, no buffer, no reads):

    specMessages I n []           s out = (s, out)
    specMessages I n (us :: rest) s out =
      let (w, s') := specExec I I.root us { cap := some n } s      -- fresh n-byte writer
      specMessages I n rest s' (out ++ if w.buf = [] then [] else [.w w.buf, .f])

Hypotheses on each message `m : List (MsgUnit × Lex)` (`Scpi.Combo.Sendable n m`):
* `m ≠ []` and `wfMsg m` — at least one unit, all units and white-space choices
  well-formed;
* `(units m).all unitNlFree` — no newline inside a string or block payload.  `process`
  cuts the stream at every BYTE 10, so a message with a newline in a payload is not
  handed to the interpreter in one piece (that case is `Scpi.C08.process_payload_newline`);
* `(renderMsg m).length ≤ n` — the rendering fits the command buffer.  Needed: a longer
  message is discarded by `process` (last example of Scpi/Props/C07.lean).
Nothing is assumed about the headers (an undefined header costs one error and drops the
rest of its message: that is part of `specExec`), about the handlers, or about the size
of the responses (a response that does not fit the `n`-byte writer is an error reported
through `onError`: that is part of `specUnit`).
-/
import Scpi.Proofs.StreamRender

namespace Scpi

namespace C07
open Msg Combo

/-- **`process` on rendered messages.**  For every interface, every buffer size `n ≥ 1`,
every list `ms` of sendable messages, every choice of white space / CR LF / letter case
in their renderings, and EVERY fault-free read schedule `sc` delivering the concatenated
renderings: the final user state of `process::<n>` (handlers run, errors reported) and
its writes and flushes are those of the specification `specMessages` on the unit lists. -/
theorem process_render {σ : Type} (I : Iface σ) (n : Nat) (ms : List (List (MsgUnit × Lex)))
    (sc : Script) (s : σ) (hn : 1 ≤ n) (hf : sc.fault = none)
    (hs : sc.stream = (ms.map renderMsg).flatten) (hm : ∀ m ∈ ms, Sendable n m) :
    (process I n sc s).user = (specMessages I n (ms.map units) s []).1 ∧
    (process I n sc s).trace.filter PEv.nonRead = (specMessages I n (ms.map units) s []).2 := by
  have h := process_eq_runs I n sc (ms.map renderMsg) s hn hf hs (isMessage_render_all I n hm)
  rw [runMessages_render I n ms s [] hm] at h
  exact h

/-- The stream machine itself (no reads at all) on rendered messages. -/
theorem stream_render {σ : Type} (I : Iface σ) (n : Nat) (ms : List (List (MsgUnit × Lex)))
    (s : σ) (hm : ∀ m ∈ ms, Sendable n m) :
    (streamRun I n (ms.map renderMsg).flatten s).user = (specMessages I n (ms.map units) s []).1 ∧
    (streamRun I n (ms.map renderMsg).flatten s).out = (specMessages I n (ms.map units) s []).2 := by
  have h := stream_eq_runs I n (ms.map renderMsg) s (isMessage_render_all I n hm)
  rw [runMessages_render I n ms s [] hm] at h
  exact h

/-- A rendered sendable message is a complete message in the sense of T7.2. -/
theorem isMessage_renderMsg {σ : Type} (I : Iface σ) (n : Nat) (m : List (MsgUnit × Lex))
    (h : Sendable n m) : IsMessage I n (renderMsg m) :=
  isMessage_render I n h

/-! ### Non-vacuity

The demo interface of Scpi/Props/RunRender.lean; messages `s:a;b;:x;*c⏎` (12 bytes, in
the loose rendering 28 bytes) and `x?⏎`; a 28-byte command buffer. -/

/-- `x?` tight. -/
def exQ : List (MsgUnit × Lex) := [(Msg.Demo.uQ, Msg.Demo.tight)]

theorem ex_sendable : ∀ m ∈ [Msg.Demo.msg2, exQ, Msg.Demo.msg1], Sendable 28 m := by
  intro m hm
  simp only [List.mem_cons, List.not_mem_nil, or_false] at hm
  rcases hm with rfl | rfl | rfl <;>
    exact ⟨by decide +kernel, by decide +kernel, by decide +kernel, by decide +kernel⟩

/-- The 43-byte stream of the three messages … -/
def exStream : Bytes := ([Msg.Demo.msg2, exQ, Msg.Demo.msg1].map renderMsg).flatten

/-- … byte by byte with empty reads in between … -/
def exSlow : Script := { stream := exStream, sizes := (List.replicate 43 [0, 1]).flatten }
/-- … and in reads of 28 (exactly the buffer), 1 and 100 bytes. -/
def exFast : Script := { stream := exStream, sizes := [28, 1, 100] }

/-- What the specification says: handlers 1,2,0,3, then the query 4 answering `7⏎`, then
1,2,0,3 again; one response written and flushed. -/
example : specMessages Msg.Demo.I 28 ([Msg.Demo.msg2, exQ, Msg.Demo.msg1].map units) [] [] =
    ([(1, []), (2, []), (0, []), (3, []), (4, []), (1, []), (2, []), (0, []), (3, [])],
     [.w [55, 10], .f]) := by decide +kernel

/-- The theorem, instantiated for both schedules. -/
example : (process Msg.Demo.I 28 exSlow []).user =
      (specMessages Msg.Demo.I 28 ([Msg.Demo.msg2, exQ, Msg.Demo.msg1].map units) [] []).1 ∧
    (process Msg.Demo.I 28 exFast []).trace.filter PEv.nonRead =
      (specMessages Msg.Demo.I 28 ([Msg.Demo.msg2, exQ, Msg.Demo.msg1].map units) [] []).2 :=
  ⟨(process_render Msg.Demo.I 28 _ exSlow [] (by decide) rfl rfl ex_sendable).1,
   (process_render Msg.Demo.I 28 _ exFast [] (by decide) rfl rfl ex_sendable).2⟩

/-- Computed independently of the theorem: `process` on the fast schedule. -/
example : (process Msg.Demo.I 28 exFast []).user =
      [(1, []), (2, []), (0, []), (3, []), (4, []), (1, []), (2, []), (0, []), (3, [])] ∧
    (process Msg.Demo.I 28 exFast []).trace.filter PEv.nonRead = [.w [55, 10], .f] := by
  decide +kernel

/-- The length bound is needed: with a 27-byte buffer the 28-byte first message is
discarded (its four handlers are not called) although `specMessages` runs it. -/
example : (process Msg.Demo.I 27 exFast []).user ≠
    (specMessages Msg.Demo.I 27 ([Msg.Demo.msg2, exQ, Msg.Demo.msg1].map units) [] []).1 := by
  decide +kernel

/-- The payload condition is needed for this statement: `x?;s:p "a⏎",#10;:x?⏎` (every
header resolves, a newline in the string).  `process` hands the bytes up to the embedded
newline to the interpreter first (`x?` is answered and the answer sent), keeps the
unfinished unit and goes on at the terminator: the user state is that of the
specification, but the two answers are sent in two writes instead of one.  (Messages
with newlines in payloads: `Scpi.C08.process_render_payload`, which compares the bytes
sent rather than the individual writes.) -/
def exNl : List (MsgUnit × Lex) :=
  [(Msg.Demo.uQ, Msg.Demo.tight),
   ({ hdr := { path := .compound false [[115], [112]], query := false },
      lits := [.str 34 [97, 10], .block 1 []] }, { Msg.Demo.tight with sep := [32] }),
   ({ hdr := { path := .compound true [[120]], query := true }, lits := [] }, Msg.Demo.tight)]

example : exNl ≠ [] ∧ wfMsg exNl = true ∧ (renderMsg exNl).length ≤ 28 ∧
    allResolve Msg.Demo.I.root Msg.Demo.I.root (units exNl) = true ∧
    (specMessages Msg.Demo.I 28 [units exNl] [] []).2 = [.w [55, 10, 55, 10], .f] ∧
    (process Msg.Demo.I 28 { stream := renderMsg exNl, sizes := [] } []).trace.filter PEv.nonRead =
      [.w [55, 10], .f, .w [55, 10], .f] := by
  decide +kernel

end C07

namespace C11
open Msg Combo

/-- **Lexical choices and chunking are jointly irrelevant.**  Two streams that render
the same messages (`ms₁.map units = ms₂.map units`) with different white space — before
each unit, after the header, around each comma, before each `;` and before the
terminator, CR LF or LF — each rendering fitting the buffer, delivered through ANY two
fault-free read schedules: the same final user state and the same writes and flushes. -/
theorem process_lex_irrelevant {σ : Type} (I : Iface σ) (n : Nat)
    (ms₁ ms₂ : List (List (MsgUnit × Lex))) (sc₁ sc₂ : Script) (s : σ) (hn : 1 ≤ n)
    (hf₁ : sc₁.fault = none) (hf₂ : sc₂.fault = none)
    (hs₁ : sc₁.stream = (ms₁.map renderMsg).flatten) (hs₂ : sc₂.stream = (ms₂.map renderMsg).flatten)
    (hm₁ : ∀ m ∈ ms₁, Sendable n m) (hm₂ : ∀ m ∈ ms₂, Sendable n m)
    (hu : ms₁.map units = ms₂.map units) :
    (process I n sc₁ s).user = (process I n sc₂ s).user ∧
    (process I n sc₁ s).trace.filter PEv.nonRead = (process I n sc₂ s).trace.filter PEv.nonRead := by
  obtain ⟨a₁, b₁⟩ := C07.process_render I n ms₁ sc₁ s hn hf₁ hs₁ hm₁
  obtain ⟨a₂, b₂⟩ := C07.process_render I n ms₂ sc₂ s hn hf₂ hs₂ hm₂
  rw [a₁, a₂, b₁, b₂, hu]
  exact ⟨rfl, rfl⟩

/-- **… and so is the letter case of the mnemonics.**  The same with messages that
differ, unit by unit, only in the letter case of the header mnemonics
(`SameMsgsUpToCase`: same literals, same `?`, `PathSameIgnoringCase` headers). -/
theorem process_case_irrelevant {σ : Type} (I : Iface σ) (n : Nat)
    (ms₁ ms₂ : List (List (MsgUnit × Lex))) (sc₁ sc₂ : Script) (s : σ) (hn : 1 ≤ n)
    (hf₁ : sc₁.fault = none) (hf₂ : sc₂.fault = none)
    (hs₁ : sc₁.stream = (ms₁.map renderMsg).flatten) (hs₂ : sc₂.stream = (ms₂.map renderMsg).flatten)
    (hm₁ : ∀ m ∈ ms₁, Sendable n m) (hm₂ : ∀ m ∈ ms₂, Sendable n m)
    (hu : SameMsgsUpToCase (ms₁.map units) (ms₂.map units)) :
    (process I n sc₁ s).user = (process I n sc₂ s).user ∧
    (process I n sc₁ s).trace.filter PEv.nonRead = (process I n sc₂ s).trace.filter PEv.nonRead := by
  obtain ⟨a₁, b₁⟩ := C07.process_render I n ms₁ sc₁ s hn hf₁ hs₁ hm₁
  obtain ⟨a₂, b₂⟩ := C07.process_render I n ms₂ sc₂ s hn hf₂ hs₂ hm₂
  rw [a₁, a₂, b₁, b₂, specMessages_sameUpToCase I n _ _ hu]
  exact ⟨rfl, rfl⟩

/-- Non-vacuity: `s:a;b;:x;*c⏎` tight (12 bytes) read byte by byte against the loose
28-byte rendering with CR LF read in one piece … -/
example : (process Msg.Demo.I 28 { stream := renderMsg Msg.Demo.msg1, sizes := List.replicate 12 1 } []).user =
    (process Msg.Demo.I 28 { stream := renderMsg Msg.Demo.msg2, sizes := [28] } []).user :=
  (process_lex_irrelevant Msg.Demo.I 28 [Msg.Demo.msg1] [Msg.Demo.msg2] _ _ [] (by decide) rfl rfl
    (List.append_nil (renderMsg Msg.Demo.msg1)).symm (List.append_nil (renderMsg Msg.Demo.msg2)).symm
    (fun m hm => C07.ex_sendable m (List.mem_cons_of_mem _ (List.mem_cons_of_mem _ hm)))
    (fun m hm => C07.ex_sendable m (List.mem_cons.mpr (Or.inl (List.eq_of_mem_singleton hm))))
    rfl).1

/-- … and against the upper-case spelling `S:A;B;:X;*C⏎`. -/
example : SameMsgsUpToCase ([Msg.Demo.msg1].map units) ([mapMsgCase toUpperAscii Msg.Demo.msg1].map units) :=
  ⟨sameUpToCase_map C11.mapPath_upper_same _, trivial⟩

end C11
end Scpi
