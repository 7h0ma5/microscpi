/-
C09 — the error queue is a bounded FIFO with IEEE 488.2 overflow semantics.

Spec: a bounded FIFO of capacity `c` over plain lists (`specPush`, `specStep`, `specRun`).
Theorems: the model queue refines the spec for every capacity and every operation
sequence; the invariant `length ≤ capacity`; older entries are untouched by an overflow;
FIFO order; the responses of `SYSTem:ERRor[:NEXT]?` / `:COUNt?`; the complete table of
error numbers (of the descriptions only those of -350 and -113 are stated).
-/
import Scpi.Commands
import Scpi.Proofs.StdErrTable

namespace Scpi
namespace C09

/-- Operations on an error queue. -/
inductive QOp where
  | push (e : Err)
  | pop
  | count
  deriving Repr

/-- What an operation returns. -/
inductive QRes where
  | none
  | popped (e : Option Err)
  | count (n : Nat)
  deriving Repr, DecidableEq

/-! ### The abstract specification -/

/-- Bounded FIFO of capacity `c`, oldest entry first.  A queue that is full and empty has
capacity 0 and stays empty. -/
def specPush (c : Nat) (l : List Err) (e : Err) : List Err :=
  if l.length < c then l ++ [e]
  else if l = [] then [] else l.dropLast ++ [Err.std .QueueOverflow]

def specStep (c : Nat) (l : List Err) : QOp → List Err × QRes
  | .push e => (specPush c l e, .none)
  | .pop => (l.tail, .popped l.head?)
  | .count => (l, .count l.length)

def specRun (c : Nat) (l : List Err) : List QOp → List Err × List QRes
  | [] => (l, [])
  | op :: ops =>
    let (l', r) := specStep c l op
    let (l'', rs) := specRun c l' ops
    (l'', r :: rs)

/-! ### The model -/

def step (q : EQueue) : QOp → EQueue × QRes
  | .push e => (q.push e, .none)
  | .pop => ((q.pop).2, .popped (q.pop).1)
  | .count => (q, .count q.count)

def runOps (q : EQueue) : List QOp → EQueue × List QRes
  | [] => (q, [])
  | op :: ops =>
    let (q', r) := step q op
    let (q'', rs) := runOps q' ops
    (q'', r :: rs)

theorem push_items (q : EQueue) (e : Err) : (q.push e).items = specPush q.cap q.items e := by
  unfold EQueue.push specPush
  split
  · rfl
  · -- `reverse`, replace the head, `reverse` again is `dropLast ++ [·]`
    rcases List.eq_nil_or_concat q.items with h | ⟨pre, x, h⟩ <;> simp [h]

theorem push_cap (q : EQueue) (e : Err) : (q.push e).cap = q.cap := by
  unfold EQueue.push
  split
  · rfl
  · split <;> rfl

/-- `pop` removes the oldest entry (and nothing from the empty queue). -/
theorem pop_items (q : EQueue) : q.pop.2.items = q.items.tail ∧ q.pop.2.cap = q.cap := by
  rcases q with ⟨cap, items⟩
  cases items <;> exact ⟨rfl, rfl⟩

/-- One step of the model is one step of the specification. -/
theorem step_refines (q : EQueue) (op : QOp) :
    ((step q op).1.items, (step q op).2) = specStep q.cap q.items op ∧ (step q op).1.cap = q.cap := by
  cases op with
  | push e => exact ⟨by simp [step, specStep, push_items], push_cap q e⟩
  | pop => cases h : q.items <;> simp [step, specStep, EQueue.pop, h]
  | count => simp [step, specStep, EQueue.count]

/-- **T9.1 `queue_refines`**: for every capacity and every operation sequence the
queue returns what the bounded FIFO returns and holds what it holds. -/
theorem queue_refines (ops : List QOp) (q : EQueue) :
    ((runOps q ops).1.items, (runOps q ops).2) = specRun q.cap q.items ops := by
  induction ops generalizing q with
  | nil => rfl
  | cons op ops ih =>
    obtain ⟨h1, h2⟩ := step_refines q op
    have h3 := ih (step q op).1
    rw [h2] at h3
    simp only [runOps, specRun, ← h1, ← h3]

/-- The specification never holds more than its capacity. -/
theorem specPush_length_le (c : Nat) (l : List Err) (e : Err) (h : l.length ≤ c) :
    (specPush c l e).length ≤ c := by
  unfold specPush
  split
  · rw [List.length_append, List.length_singleton]
    omega
  · split
    · exact Nat.zero_le c
    · next hne =>
      have : 0 < l.length := List.length_pos_iff.mpr hne
      rw [List.length_append, List.length_dropLast, List.length_singleton]
      omega

/-- **Invariant**: the queue never holds more than its capacity, for every
reachable state. -/
theorem length_le_cap (ops : List QOp) (q : EQueue) (h : q.items.length ≤ q.cap) :
    (runOps q ops).1.items.length ≤ q.cap := by
  induction ops generalizing q with
  | nil => exact h
  | cons op ops ih =>
    obtain ⟨hs, hc⟩ := step_refines q op
    simp only [runOps]
    rw [← hc]
    refine ih _ ?_
    -- a step of the specification keeps the bound
    rw [hc, show (step q op).1.items = (specStep q.cap q.items op).1 from congrArg Prod.fst hs]
    cases op with
    | push e => exact specPush_length_le _ _ _ h
    | pop => exact Nat.le_trans (by simp [specStep]) h
    | count => exact h

/-- **Overflow** replaces only the newest entry: everything older is intact and
the newest becomes −350. -/
theorem overflow_keeps_older (q : EQueue) (e : Err) (hfull : ¬ q.items.length < q.cap)
    (hne : q.items ≠ []) :
    (q.push e).items = q.items.dropLast ++ [Err.std .QueueOverflow] := by
  rw [push_items, specPush, if_neg hfull, if_neg hne]

/-- A push into a queue that is not full appends. -/
theorem push_appends (q : EQueue) (e : Err) (h : q.items.length < q.cap) :
    (q.push e).items = q.items ++ [e] := by
  rw [push_items, specPush, if_pos h]

def pushAll (q : EQueue) (es : List Err) : EQueue := es.foldl EQueue.push q

/-- **FIFO order**: errors that fit are stored in the order they occurred. -/
theorem pushAll_items (es : List Err) (q : EQueue) (h : q.items.length + es.length ≤ q.cap) :
    (pushAll q es).items = q.items ++ es := by
  induction es generalizing q with
  | nil => simp [pushAll]
  | cons e es ih =>
    simp only [List.length_cons] at h
    have hp := push_appends q e (by omega)
    have hlen : (q.push e).items.length + es.length ≤ (q.push e).cap := by
      rw [hp, push_cap, List.length_append, List.length_singleton]
      omega
    have := ih (q.push e) hlen
    rw [hp, List.append_assoc] at this
    exact this

/-- `SYSTem:ERRor[:NEXT]?` removes and returns the oldest entry as
`<number>,"<description>"`. -/
theorem next_returns_oldest (q : EQueue) (e : Err) (rest : List Err) (h : q.items = e :: rest) :
    (systemErrorNext q).1.items = rest ∧
    (systemErrorNext q).2 = .seq [.int e.number, .str e.descBytes] := by
  simp [systemErrorNext, EQueue.pop, h]

/-- … and `0,""` when the queue is empty (which stays empty). -/
theorem next_on_empty (q : EQueue) (h : q.items = []) :
    (systemErrorNext q).1.items = [] ∧ (systemErrorNext q).2 = .seq [.int 0, .str []] := by
  simp [systemErrorNext, EQueue.pop, h]

/-- `SYSTem:ERRor:COUNt?` returns the number of stored entries. -/
theorem count_is_length (q : EQueue) : systemErrorCount q = .int q.items.length := rfl

/-- The bytes of an error response: `<number>,"<description with quotes doubled>"`. -/
theorem next_encoding (n : Int) (d : Bytes) :
    (Resp.seq [.int n, .str d]).encode =
      (intPieces n).flatten ++ [44] ++ ((quotedCalls d).map WCall.bytes).flatten := by
  simp [Resp.encode, Resp.calls, Resp.seqCalls, WCall.bytes]

/-- **T9.3** the complete number table (59 standard errors), in the order of `StdErr.all`,
that of the arms of `Error::number` in error.rs (hence -220 before -210);
`Custom(n, s) ↦ n, s` is `custom_number_desc`. -/
theorem number_table :
    StdErr.all.map StdErr.number =
      [-100, -101, -102, -103, -104, -105, -108, -109, -110, -111, -112, -113, -114, -115, -120,
       -121, -123, -124, -128, -130, -131, -134, -138, -140, -141, -144, -148, -150, -151, -158,
       -160, -161, -168, -170, -171, -178, -200, -201, -203, -220, -210, -221, -222, -223, -224,
       -225, -226, -230, -240, -300, -310, -320, -330, -340, -350, -360, -363, -365, -400] := by
  decide +kernel

theorem all_complete (e : StdErr) : e ∈ StdErr.all := stdErr_mem_all e

theorem overflow_is_350 : (Err.std .QueueOverflow).number = -350 ∧
    StdErr.QueueOverflow.describe = "Queue overflow" := ⟨rfl, rfl⟩

theorem undefined_header_is_113 : (Err.std .UndefinedHeader).number = -113 ∧
    StdErr.UndefinedHeader.describe = "Undefined header" := ⟨rfl, rfl⟩

theorem custom_number_desc (n : Int) (d : Bytes) :
    (Err.custom n d).number = n ∧ (Err.custom n d).descBytes = d := ⟨rfl, rfl⟩

/-- Non-vacuity: a concrete overflow history on a queue of capacity 2. -/
example :
    (runOps { cap := 2 } [.push (.std .UndefinedHeader), .push (.std .InvalidCharacter),
        .push (.std .ExecutionError), .count, .pop, .pop, .pop]).2 =
      [.none, .none, .none, .count 2, .popped (some (.std .UndefinedHeader)),
       .popped (some (.std .QueueOverflow)), .popped none] := by decide +kernel

end C09
end Scpi
