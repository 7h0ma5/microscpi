/-
C12, prefix determinacy — the longer-to-shorter direction.

`Scpi/Props/C12.lean` shows that an accepted unit stays accepted, with the same
call, when bytes are appended (`parse_ok_append`): from a SHORTER input to a LONGER
one.  That alone does not say that the result is "determined solely by the bytes up
to and including that unit's terminator": a parser that answered `incomplete` on
`X;` while accepting the unit `X;` on `X;Y` would satisfy every theorem of
`C12.lean`.  The theorems below close the gap, from the LONGER input to the SHORTER
one: if `parse` accepts on `p ++ z` and returns exactly `z`, then it accepts on the
consumed bytes `p` alone — hence on `p ++ z'` for every `z'` — with the same call.
So the verdict on an input whose front is a complete unit is a function of that
unit's bytes only, and `incomplete` is returned only when the input ends inside a
unit.

All statements hold for every command tree `root`, every start node `header` and
all byte strings.  Proofs: `Scpi/Proofs/Final*.lean` (the consumed part ends with a
terminator byte, so every recogniser that ran before the final `tag` ran on an input
whose own part still contains a terminator; class-bounded recognisers then do not
depend on what follows, and `quoted`/`arbitrary` succeeded inside the consumed
part: after `incomplete` a success on the longer input eats into the appended bytes,
`Final.back`).
-/
import Scpi.Props.C12

namespace Scpi
namespace C12

/-- **T12.5 (the unit alone)**: if `parse` accepts on `p ++ z` and the returned rest is
exactly `z`, then the consumed bytes `p` on their own are accepted, with the same
call and nothing left.  In particular cutting the input right after the unit's
terminator never turns acceptance into `incomplete` or an error. -/
theorem parse_unit_alone (root header : Node) (p z : Bytes) (c : Option CommandCall)
    (h : parse root header (p ++ z) = .ok z c) : parse root header p = .ok [] c :=
  parse_back root header h

/-- **T12.5 (prefix determinacy)**: the result of an accepting `parse` is determined
solely by the consumed bytes `p`: whatever follows `p` instead of `z` is returned
untouched and the call is the same. -/
theorem parse_prefix_determined (root header : Node) (p z : Bytes) (c : Option CommandCall)
    (h : parse root header (p ++ z) = .ok z c) :
    ∀ z', parse root header (p ++ z') = .ok z' c :=
  fun z' => parse_ok_append root header p z' [] c (parse_unit_alone root header p z c h)

/-- Both directions together: `p` is the consumed part of an accepted input with call
`c` iff `p` alone is accepted with call `c` and nothing left. -/
theorem parse_unit_iff (root header : Node) (p z : Bytes) (c : Option CommandCall) :
    parse root header (p ++ z) = .ok z c ↔ parse root header p = .ok [] c :=
  ⟨parse_unit_alone root header p z c, parse_ok_append root header p z [] c⟩

/-- **T12.5 (consumed part)**: every accepted input splits into the consumed part and
the returned rest, and the consumed part alone is accepted with the same call. -/
theorem parse_consumed_alone (root header : Node) (x r : Bytes) (c : Option CommandCall)
    (h : parse root header x = .ok r c) :
    ∃ p, x = p ++ r ∧ p ≠ [] ∧ parse root header p = .ok [] c := by
  obtain ⟨hlt, p, hp⟩ := parse_ok_consumes root header x r c h
  subst hp
  refine ⟨p, rfl, fun e => ?_, parse_unit_alone root header p r c h⟩
  subst e
  exact Nat.lt_irrefl _ hlt

/-- **T12.4 (strong form)**: an input whose front `p` is a complete unit (or empty
message) — i.e. `p` is what `parse` consumed on some input — is never `incomplete`,
whatever follows.  So `incomplete` is returned only when the input ends inside a
unit.  (`parse_incomplete_only_inside` excludes only prefixes that are accepted *on
their own*; by `parse_unit_alone` that is the same thing.) -/
theorem parse_complete_unit_never_incomplete (root header : Node) (p z : Bytes)
    (c : Option CommandCall) (h : parse root header (p ++ z) = .ok z c) (z' : Bytes) :
    parse root header (p ++ z') ≠ .incomplete := by
  rw [parse_prefix_determined root header p z c h z']
  nofun

/-- The same read from the `incomplete` side: when `parse` answers `incomplete`, no
prefix of the input is the consumed part of any accepted input. -/
theorem parse_incomplete_no_unit_prefix (root header : Node) (x : Bytes)
    (h : parse root header x = .incomplete) (p q z : Bytes) (c : Option CommandCall)
    (hpq : x = p ++ q) : parse root header (p ++ z) ≠ .ok z c := by
  intro hz
  subst hpq
  exact parse_complete_unit_never_incomplete root header p z c hz q h

/-- **T12.5 (same front, same verdict)**: if `parse` accepts `x` leaving `r`, then every
input `x'` that agrees with `x` on the consumed bytes (the first
`x.length - r.length` bytes) is accepted with the same call, leaving everything
after those bytes. -/
theorem parse_verdict_of_unit (root header : Node) (x r : Bytes) (c : Option CommandCall)
    (h : parse root header x = .ok r c) (x' : Bytes)
    (hx' : x'.take (x.length - r.length) = x.take (x.length - r.length)) :
    parse root header x' = .ok (x'.drop (x.length - r.length)) c := by
  obtain ⟨_, p, hp⟩ := parse_ok_consumes root header x r c h
  subst hp
  have hn : (p ++ r).length - r.length = p.length := by
    rw [List.length_append]
    omega
  rw [hn] at hx' ⊢
  rw [List.take_left' rfl] at hx'
  have hsplit : x' = p ++ x'.drop p.length := by
    have e := (List.take_append_drop p.length x').symm
    rwa [hx'] at e
  rw [hsplit, List.drop_left' rfl]
  exact parse_prefix_determined root header p r c h _

/-- Two accepted inputs whose consumed parts coincide carry the same call. -/
theorem parse_call_of_unit (root header : Node) (p z z' : Bytes) (c c' : Option CommandCall)
    (h : parse root header (p ++ z) = .ok z c) (h' : parse root header (p ++ z') = .ok z' c') :
    c = c' := by
  have e := parse_prefix_determined root header p z' c' h' z
  rw [h] at e
  exact (PResult.ok.inj e).2

/-! ### Non-vacuity, on the tree of `C12.lean` with the single command `X` -/

/-- `X;Y`: the unit `X;` is accepted and `Y` is left (hypothesis of T12.5). -/
example : ∃ c, parse tree tree ([88, 59] ++ [89]) = .ok [89] (some c) := ⟨_, rfl⟩

/-- … so `X;` alone is accepted (and indeed it is) … -/
example : ∃ c, parse tree tree [88, 59] = .ok [] (some c) := ⟨_, rfl⟩

/-- … and `X;` followed by anything is accepted with the same call: the trial change M2_C12
of /verif/seeded ("`X;` is `incomplete` although `X;Y` accepts `X;`") contradicts T12.5. -/
example : ∃ c, ∀ z', parse tree tree ([88, 59] ++ z') = .ok z' (some c) :=
  ⟨_, parse_prefix_determined tree tree [88, 59] [89] _ rfl⟩

/-- `X "a;b\n";X\n`: the consumed unit contains both terminator bytes inside a string;
the unit `X "a;b\n";` alone is accepted. -/
example : ∃ c, parse tree tree ([88, 32, 34, 97, 59, 98, 10, 34, 59] ++ [88, 10])
    = .ok [88, 10] (some c) ∧
      parse tree tree [88, 32, 34, 97, 59, 98, 10, 34, 59] = .ok [] (some c) := by
  refine ⟨?c, ?h, parse_unit_alone tree tree _ [88, 10] _ ?h⟩
  case h => rfl

/-- `X #13a;\n;X`: block data whose payload contains `;` and `\n`. -/
example : ∃ c, parse tree tree ([88, 32, 35, 49, 51, 97, 59, 10, 59] ++ [88])
    = .ok [88] (some c) ∧
      parse tree tree [88, 32, 35, 49, 51, 97, 59, 10, 59] = .ok [] (some c) := by
  refine ⟨?c, ?h, parse_unit_alone tree tree _ [88] _ ?h⟩
  case h => rfl

/-- `X ;Y` (white space, then no parameter: the soft failure of the argument list is
followed by the end of the unit) and the empty message `\n`. -/
example : ∃ c, parse tree tree ([88, 32, 59] ++ [89]) = .ok [89] (some c) := ⟨_, rfl⟩
example : parse tree tree ([10] ++ [88]) = .ok [88] none := rfl

/-- The hypothesis "the rest is exactly `z`" matters: `X 1e` is a prefix of the accepted
`X 1e5;` but is not its consumed part, and alone it is an error. -/
example : (parse tree tree ([88, 32, 49, 101] ++ [53, 59])).isOk = true ∧
    parse tree tree [88, 32, 49, 101] = .soft (some (.std .InvalidCharacter)) := by decide +kernel

/-- `X "a;` is `incomplete` (hypothesis of `parse_incomplete_no_unit_prefix`). -/
example : parse tree tree [88, 32, 34, 97, 59] = .incomplete := by decide +kernel

end C12
end Scpi
