/-
C06 corners — an EMPTY PROGRAM MESSAGE UNIT is a fault, never silently accepted.

A `;` met where a program header is expected (at the very start of a message, right
behind another `;`, or behind white space in either place) is not "an empty unit that
is skipped": the parser answers `UndefinedHeader` (the compound form fails on the
`;`, the common form — which is tried last — fails on the missing `*`, and that
failure is mapped to `UndefinedHeader`, which is fatal), and the dispatcher treats it
like every other parse-level fault: one error, no handler, nothing written, the rest
of the message up to the next byte 10 is dropped, the path is the root again.

All statements hold for every tree, every current path, every interface, writer and
user state, every white space before the `;` and every continuation behind it.
-/
import Scpi.Props.C02
import Scpi.Props.C06
import Scpi.Proofs.RenderHdr

namespace Scpi
namespace C06

theorem takeWhile_ws_append (ws : Bytes) (c : Nat) (rest : Bytes)
    (hws : ∀ b ∈ ws, isWs b = true) (hc : isWs c = false) :
    (ws ++ c :: rest).takeWhile isWs = ws ∧ (ws ++ c :: rest).dropWhile isWs = c :: rest :=
  takeWhile_append_ends (List.all_eq_true.mpr hws) (ends_cons hc)

theorem optP_whitespace_skip (ws : Bytes) (c : Nat) (rest : Bytes)
    (hws : ∀ b ∈ ws, isWs b = true) (hc : isWs c = false) :
    ∃ v, optP whitespace (ws ++ c :: rest) = .ok (c :: rest) v :=
  optP_whitespace_append (List.all_eq_true.mpr hws) (ends_cons hc)

/-- **An empty unit is an error, never accepted.**  Whatever the tree `root`, the
current path `header`, the white space `ws` in front and the bytes `rest` behind, a
`;` where a header is expected makes `parse` answer the FATAL error `UndefinedHeader`
— not `ok`, not `incomplete`, not a crash, and not a soft error either. -/
theorem parse_stray_semicolon (root header : Node) (ws rest : Bytes)
    (hws : ∀ b ∈ ws, isWs b = true) :
    parse root header (ws ++ 59 :: rest) = .fatal (.std .UndefinedHeader) :=
  -- `;` (59) is not white space, not the newline, not `*`; nor, for the compound form, `:` or
  -- a letter
  parse_of_compound_not_ok root header (List.all_eq_true.mpr hws) (by decide) (by decide)
    (by decide) fun i v h => by
      rw [compoundHeader_soft root header rest (by decide) (by decide) (by decide)] at h
      cases h

/-- … in particular it is none of the other verdicts. -/
theorem parse_stray_semicolon_not_ok (root header : Node) (ws rest : Bytes)
    (hws : ∀ b ∈ ws, isWs b = true) :
    (∀ i v, parse root header (ws ++ 59 :: rest) ≠ .ok i v) ∧
    parse root header (ws ++ 59 :: rest) ≠ .incomplete ∧
    (∀ c, parse root header (ws ++ 59 :: rest) ≠ .crash c) ∧
    (∀ e, parse root header (ws ++ 59 :: rest) ≠ .soft e) := by
  rw [parse_stray_semicolon root header ws rest hws]
  simp only [ne_eq, reduceCtorEq, not_false_eq_true, implies_true, and_self]

/-- Non-vacuity: ` \t;X⏎` on the demo tree, from the path `S`. -/
example : parse Demo.tree Demo.nS [32, 9, 59, 88, 10] = .fatal (.std .UndefinedHeader) :=
  parse_stray_semicolon _ _ [32, 9] [88, 10] (by decide)

/-- … and `;` as the very first byte (`ws = []`), nothing behind it. -/
example : parse Demo.tree Demo.tree [59] = .fatal (.std .UndefinedHeader) :=
  parse_stray_semicolon _ _ [] [] (by decide)

/-- White space and the `;` contain no newline: re-synchronisation looks in `rest`. -/
theorem afterNewline_stray (ws rest : Bytes) (hws : ∀ b ∈ ws, isWs b = true) :
    afterNewline (ws ++ 59 :: rest) = afterNewline rest :=
  afterNewline_skip (fun h => absurd (hws 10 h) (by decide)) (59 :: rest)

/-- The first newline of `body ++ ⏎` is the last byte when `body` has none. -/
theorem afterNewline_body (body : Bytes) (hb : 10 ∉ body) :
    afterNewline (body ++ [10]) = some [] :=
  afterNewline_skip hb [10]

/-- **What the dispatcher does with an empty unit** (one step of `runFrom`, as
`C02.runFrom_fatal`): it hands exactly one error, `UndefinedHeader`, to the error
handler; no handler of the interface is applied and the writer is passed on untouched
(`w` and `I.onError s …` are all that is left of this step); then it resumes behind
the next byte 10 of `rest` from the ROOT path — every unit between the stray `;` and
that newline is dropped — or, if `rest` has no newline, stops with the whole input
kept and the path unchanged. -/
theorem run_stray_semicolon {σ : Type} (I : Iface σ) (h : Node) (ws rest : Bytes) (w : Writer)
    (s : σ) (hws : ∀ b ∈ ws, isWs b = true) :
    runFrom I h (ws ++ 59 :: rest) w s =
      match afterNewline rest with
      | some r => runFrom I I.root r w (I.onError s (.std .UndefinedHeader))
      | none => { rest := ws ++ 59 :: rest, header := h, w := w,
                  s := I.onError s (.std .UndefinedHeader) } := by
  rw [C02.runFrom_fatal I h _ w s _ (List.append_ne_nil_of_right_ne_nil _ (List.cons_ne_nil _ _))
      (parse_stray_semicolon I.root h ws rest hws),
    afterNewline_stray ws rest hws]
  cases afterNewline rest <;> rfl

/-- **Observably**: with the tracing wrapper of `C02.events_in_order` (every handler
invocation and every `onError` is an event) the events of a run on `ws ++ ; ++ rest`
are the ONE event `error UndefinedHeader` — no `call` event belongs to this step —
followed by the events of the run the step hands over to. -/
theorem events_stray_semicolon {σ : Type} (I : Iface σ) (h : Node) (ws rest : Bytes) (w : Writer)
    (s : σ) (hws : ∀ b ∈ ws, isWs b = true) :
    runLog I (fun id tvs => [Ev.call id tvs]) (fun e => [Ev.error e]) h (ws ++ 59 :: rest) w s =
      Ev.error (.std .UndefinedHeader) ::
        match afterNewline rest with
        | some r => runLog I (fun id tvs => [Ev.call id tvs]) (fun e => [Ev.error e]) I.root r w
            (I.onError s (.std .UndefinedHeader))
        | none => [] := by
  rw [runLog_fault I _ _ h _ w s _ (List.append_ne_nil_of_right_ne_nil _ (List.cons_ne_nil _ _))
      (.inr (parse_stray_semicolon I.root h ws rest hws)),
    afterNewline_stray ws rest hws]
  rfl

/-- The same for the list of reported errors (`C06.errors_of_run`). -/
theorem errors_stray_semicolon {σ : Type} (I : Iface σ) (h : Node) (ws rest : Bytes) (w : Writer)
    (s : σ) (hws : ∀ b ∈ ws, isWs b = true) :
    errorsOf I h (ws ++ 59 :: rest) w s =
      .std .UndefinedHeader ::
        match afterNewline rest with
        | some r => errorsOf I I.root r w (I.onError s (.std .UndefinedHeader))
        | none => [] := by
  rw [errorsOf, runLog_fault I _ _ h _ w s _
    (List.append_ne_nil_of_right_ne_nil _ (List.cons_ne_nil _ _))
    (.inr (parse_stray_semicolon I.root h ws rest hws)), afterNewline_stray ws rest hws]
  rfl

/-- **Message level.**  A message that begins (after white space) with an empty unit
and whose only byte 10 is its terminator — `ws ++ ; ++ body ++ ⏎` — is consumed
completely, reports exactly one error, leaves the writer as it was, applies nothing
but the error handler to the user state, and leaves the root path: none of the units
in `body` is executed. -/
theorem run_stray_semicolon_message {σ : Type} (I : Iface σ) (h : Node) (ws body : Bytes)
    (w : Writer) (s : σ) (hws : ∀ b ∈ ws, isWs b = true) (hb : 10 ∉ body) :
    runFrom I h (ws ++ 59 :: (body ++ [10])) w s =
      { rest := [], header := I.root, w := w, s := I.onError s (.std .UndefinedHeader) } := by
  rw [run_stray_semicolon I h ws _ w s hws, afterNewline_body body hb]
  exact C02.runFrom_nil I I.root w _

/-- … and its complete event log is the one error. -/
theorem events_stray_semicolon_message {σ : Type} (I : Iface σ) (h : Node) (ws body : Bytes)
    (w : Writer) (s : σ) (hws : ∀ b ∈ ws, isWs b = true) (hb : 10 ∉ body) :
    runLog I (fun id tvs => [Ev.call id tvs]) (fun e => [Ev.error e]) h
        (ws ++ 59 :: (body ++ [10])) w s = [Ev.error (.std .UndefinedHeader)] ∧
    errorsOf I h (ws ++ 59 :: (body ++ [10])) w s = [.std .UndefinedHeader] := by
  rw [events_stray_semicolon I h ws _ w s hws, errors_stray_semicolon I h ws _ w s hws,
    afterNewline_body body hb]
  exact ⟨by simp only [runLog_nil], by simp only [errors_of_nothing]⟩

/-- Non-vacuity on the demo interface: `X; ;X⏎X⏎` — the first `X` runs (0), the empty
unit costs one error (99) and drops the `X` behind it, the next message runs (0). -/
example : (run Demo.I.logged [88, 59, 32, 59, 88, 10, 88, 10] Demo.W ([], [])).s =
    ([0, 99, 0], [.std .UndefinedHeader]) := by decide +kernel

/-- … and the general theorem instantiated at its second unit: from the path the
first `X` left, ` ;X⏎X⏎` is one error, then the run of `X⏎` from the root. -/
example (s : List Nat) : runFrom Demo.I Demo.tree [32, 59, 88, 10, 88, 10] Demo.W s =
    runFrom Demo.I Demo.tree [88, 10] Demo.W (s ++ [99]) :=
  run_stray_semicolon Demo.I Demo.tree [32] [88, 10, 88, 10] Demo.W s (by decide +kernel)
example : runLog Demo.I (fun id tvs => [Ev.call id tvs]) (fun e => [Ev.error e]) Demo.nS
    [32, 59, 88, 10] Demo.W [] = [Ev.error (.std .UndefinedHeader)] :=
  (events_stray_semicolon_message Demo.I Demo.nS [32] [88] Demo.W [] (by decide +kernel)
    (by decide +kernel)).1

end C06
end Scpi
