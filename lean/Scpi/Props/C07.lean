/-
C07 — what `process` does depends on the byte stream only, not on how the
transport splits it into reads.

`Scpi/Spec/Stream.lean` defines the byte-at-a-time machine `streamRun`: it has no
buffer offsets and no reads, so it is a function of the stream by construction.
`process_refines_stream` shows that `Interface::process::<N, _>` over any
fault-free read schedule performs exactly the writes and flushes of that machine
and ends in the same user state; since the user state is arbitrary (take a log of
handler calls and reported errors), the handlers invoked and the errors reported
are the same as well.
-/
import Scpi.Proofs.StreamRefine
import Scpi.Proofs.StreamMessages

namespace Scpi
namespace C07

/-- **T7.1**: for every interface (tree, handlers, error handler), buffer size
`n ≥ 1`, stream and read schedule without transport fault — reads of one byte, of
zero bytes, reads larger than the free space, a schedule that runs out (the
adapter then fills the buffer) — `process`
* performs exactly the writes and flushes of the stream machine, in the same order,
* ends in the same user state,
* stops with end-of-stream, after having delivered the whole stream. -/
theorem process_refines_stream {σ : Type} (I : Iface σ) (n : Nat) (sc : Script) (s : σ)
    (hn : 1 ≤ n) (hf : sc.fault = none) :
    (process I n sc s).trace.filter PEv.nonRead = (streamRun I n sc.stream s).out ∧
    (process I n sc s).user = (streamRun I n sc.stream s).user ∧
    (process I n sc s).stop = .transport .eos ∧
    (process I n sc s).final.stream = [] := by
  rw [Proc.process_eq, hf]
  exact procLoop_refines I n _ _ (Proc.initState_inv I n sc s hn) (Nat.lt_succ_self _)

/-- **C07, first half**: two fault-free scripts with the same stream give the same
writes and flushes and the same final user state, whatever their read sizes. -/
theorem chunk_independent {σ : Type} (I : Iface σ) (n : Nat) (sc₁ sc₂ : Script) (s : σ)
    (hn : 1 ≤ n) (hf₁ : sc₁.fault = none) (hf₂ : sc₂.fault = none)
    (hs : sc₁.stream = sc₂.stream) :
    (process I n sc₁ s).trace.filter PEv.nonRead = (process I n sc₂ s).trace.filter PEv.nonRead ∧
    (process I n sc₁ s).user = (process I n sc₂ s).user := by
  obtain ⟨a₁, b₁, _, _⟩ := process_refines_stream I n sc₁ s hn hf₁
  obtain ⟨a₂, b₂, _, _⟩ := process_refines_stream I n sc₂ s hn hf₂
  rw [a₁, a₂, b₁, b₂, hs]
  exact ⟨rfl, rfl⟩

/-- **T7.2 (stream machine)**: if the stream is a sequence of complete messages — each
ends with its only newline, is at most `n` bytes long and is consumed entirely by
`run` — the stream machine does what `run` does on the messages one at a time (the
user state threaded through, a fresh `n`-byte response buffer per message, each
non-empty response written and flushed). -/
theorem stream_eq_runs {σ : Type} (I : Iface σ) (n : Nat) (msgs : List Bytes) (s : σ)
    (hm : ∀ m ∈ msgs, IsMessage I n m) :
    (streamRun I n msgs.flatten s).user = (runMessages I n msgs s []).1 ∧
    (streamRun I n msgs.flatten s).out = (runMessages I n msgs s []).2 := by
  unfold streamRun
  rw [stream_messages I n msgs (streamInit I s) hm rfl rfl]
  exact ⟨rfl, rfl⟩

/-- **C07, second half (T7.2)**: when every message fits in the command buffer,
contains no newline other than its terminator and is consumed entirely by `run`
(`IsMessage`), `process` over any fault-free read schedule calls the same handlers,
writes the same responses and reports the same errors as handing the messages to `run`
one at a time. -/
theorem process_eq_runs {σ : Type} (I : Iface σ) (n : Nat) (sc : Script) (msgs : List Bytes) (s : σ)
    (hn : 1 ≤ n) (hf : sc.fault = none) (hs : sc.stream = msgs.flatten)
    (hm : ∀ m ∈ msgs, IsMessage I n m) :
    (process I n sc s).user = (runMessages I n msgs s []).1 ∧
    (process I n sc s).trace.filter PEv.nonRead = (runMessages I n msgs s []).2 := by
  obtain ⟨a, b, _, _⟩ := process_refines_stream I n sc s hn hf
  obtain ⟨c, d⟩ := stream_eq_runs I n msgs s hm
  rw [a, b, hs, c, d]
  exact ⟨rfl, rfl⟩

/-- Whether a newline-terminated message is consumed entirely by `run` does not depend
on the response buffer or the user state, so `IsMessage` can be established by one
evaluation. -/
theorem isMessage_check {σ : Type} (I : Iface σ) (n : Nat) (body : Bytes) (w₀ : Writer) (s₀ : σ)
    (hb : ∀ b ∈ body, b ≠ 10) (hfit : body.length + 1 ≤ n)
    (h : (run I (body ++ [10]) w₀ s₀).rest = []) : IsMessage I n (body ++ [10]) :=
  ⟨⟨body, rfl, hb⟩, List.length_append ▸ hfit,
    fun w s => (runFrom_pos_indep I I.root _ w w₀ s s₀).1.trans h⟩

/-- The interface of the examples: one query `Q?` answering `7`; the user state
logs the handler calls (`none`) and the reported errors (`some e`). -/
def exI : Iface (List (Option Err)) where
  root := .mk 0 [([81], .mk 1 [] none (some 0))] none none
  cmds := [{ argTys := [], handler := fun s _ => (s ++ [none], .ok (.int 7)) }]
  onError := fun s e => s ++ [some e]

/-- Non-vacuity: `Q?\nQ?\n` through a 4-byte buffer, byte by byte … -/
example : (process exI 4 { stream := [81, 63, 10, 81, 63, 10], sizes := [1, 1, 1, 1, 1, 1] } []).trace
    = [.r 1 4, .r 1 3, .r 1 2, .w [55, 10], .f, .r 1 4, .r 1 3, .r 1 2, .w [55, 10], .f] := by decide +kernel

/-- … in one read request larger than the buffer (the adapter delivers 4 bytes, then
the schedule is exhausted and the adapter fills the free space) … -/
example : (process exI 4 { stream := [81, 63, 10, 81, 63, 10], sizes := [6] } []).trace
    = [.r 4 4, .w [55, 10], .f, .r 2 3, .w [55, 10], .f] := by decide +kernel

/-- … and with empty reads and a read that exactly fills the buffer. -/
example : (process exI 4 { stream := [81, 63, 10, 81, 63, 10], sizes := [0, 4, 0, 2] } []).trace
    = [.r 0 4, .r 4 4, .w [55, 10], .f, .r 0 3, .r 2 3, .w [55, 10], .f] := by decide +kernel

/-- All three agree with the stream machine, and the handler ran twice. -/
example : (streamRun exI 4 [81, 63, 10, 81, 63, 10] []).out = [.w [55, 10], .f, .w [55, 10], .f] ∧
    (streamRun exI 4 [81, 63, 10, 81, 63, 10] []).user = [none, none] := by decide +kernel

/-- `Q?\nQ?\n` byte by byte. -/
def exBytewise : Script := { stream := [81, 63, 10, 81, 63, 10], sizes := [1, 1, 1, 1, 1, 1] }
/-- The same stream with empty reads and a read that fills the buffer. -/
def exEmptyReads : Script := { stream := [81, 63, 10, 81, 63, 10], sizes := [0, 4, 0, 2] }
/-- The same stream in one request larger than the buffer. -/
def exOversize : Script := { stream := [81, 63, 10, 81, 63, 10], sizes := [6] }

/-- The hypotheses of `chunk_independent` (and of `process_refines_stream`) are satisfiable. -/
example : (process exI 4 exBytewise []).user = (process exI 4 exEmptyReads []).user :=
  (chunk_independent exI 4 exBytewise exEmptyReads [] (by decide) rfl rfl rfl).2

/-- `n ≥ 1` is needed: with a zero-length command buffer every read delivers nothing
and `process` spins (the model reports `noProgress`). -/
example : (match (process exI 0 { stream := [10], sizes := [] } []).stop with
    | .crash .noProgress => true
    | _ => false) = true := by decide +kernel

/-- Non-vacuity of T7.2: `Q?\n` is a complete message for a 4-byte buffer … -/
theorem exMessage : IsMessage exI 4 [81, 63, 10] :=
  isMessage_check exI 4 [81, 63] { cap := none } [] (by decide) (by decide) (by decide +kernel)

/-- … so the hypotheses of `process_eq_runs` are satisfiable … -/
example : (process exI 4 exOversize []).user
    = (runMessages exI 4 [[81, 63, 10], [81, 63, 10]] [] []).1 :=
  (process_eq_runs exI 4 exOversize [[81, 63, 10], [81, 63, 10]] [] (by decide) rfl rfl
    (fun m hm => by
      simp only [List.mem_cons, List.not_mem_nil, or_false, or_self] at hm
      rw [hm]
      exact exMessage)).1

/-- … and two of them handed to `run` one at a time give the writes, flushes and user
state computed by `process` above. -/
example : runMessages exI 4 [[81, 63, 10], [81, 63, 10]] [] []
    = ([none, none], [.w [55, 10], .f, .w [55, 10], .f]) := by decide +kernel

/-- A message that does not fit is discarded by `process` but not by `run`: the
length hypothesis of T7.2 is needed (5-byte message `Q?  \n`, 4-byte buffer). -/
example : (process exI 4 { stream := [81, 63, 32, 32, 10], sizes := [] } []).trace.filter PEv.nonRead = [] ∧
    (run exI [81, 63, 32, 32, 10] { cap := some 4 } []).w.buf = [55, 10] := by decide +kernel

end C07
end Scpi
