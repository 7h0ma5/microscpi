/-
C12 — parser verdicts are final and depend only on the consumed bytes.

When `parse` accepts a program message unit (or an empty message), appending any
bytes changes nothing but the returned remainder, and at least one byte is
consumed.  (That the result is determined by the bytes consumed alone is
`parse_prefix_determined` in `Scpi/Props/C12Prefix.lean`.)  When it rejects an input that ends with a newline with an error rather
than `incomplete`, every continuation of that input gets the same error, so a
streaming caller may discard it.  `incomplete` is only returned when no prefix of
the input is an accepted unit.

All statements hold for every command tree `root`, every start node `header` and
all byte strings (bytes are `Nat`, a superset of `u8`).  The proofs are in
`Scpi/Proofs/Ext*.lean` and `Scpi/Proofs/Final*.lean` (T12.2: `Scpi/Proofs/GoodParse.lean`):
class-bounded recognisers never
look past a terminator byte that is still in their input (`CB`), the payload
recognisers (`quoted`, `arbitrary`) may run over terminator bytes but each of their
verdicts other than `incomplete` is final (`Final`), and the repaired ordered choice
passes `incomplete` through unchanged.
-/
import Scpi.Proofs.FinalParse

namespace Scpi
namespace C12

/-- **T12.1**: an accepted unit is determined by the bytes consumed: whatever is
appended to the input goes to the remainder and the call is the same. -/
theorem parse_ok_append (root header : Node) (x y r : Bytes) (c : Option CommandCall)
    (h : parse root header x = .ok r c) : parse root header (x ++ y) = .ok (r ++ y) c := by
  have e := parse_ext root header x y
  rw [h] at e
  exact e (Or.inl rfl) nofun

/-- **T12.2**: an accepted unit (or empty message) consumed at least one byte and
what is returned is a suffix of the input. -/
theorem parse_ok_consumes (root header : Node) (x r : Bytes) (c : Option CommandCall)
    (h : parse root header x = .ok r c) : r.length < x.length ∧ r <:+ x :=
  ⟨(parse_strict root header x).lt _ _ h, (parse_strict root header x).suffix _ _ h⟩

/-- **T12.3 (strong form)**: on an input that ends with a newline every verdict
other than `incomplete` is final: appending bytes extends the remainder of a
success and leaves an error exactly as it is. -/
theorem parse_newline_final (root header : Node) (x : Bytes) (hx : x.getLast? = some 10)
    (h : parse root header x ≠ .incomplete) (y : Bytes) :
    parse root header (x ++ y) = (parse root header x).extend y :=
  parse_ext root header x y (Or.inr hx) h

/-- **T12.3 (errors)**: an error verdict on a newline-terminated input is the verdict
on every continuation of that input. -/
theorem parse_err_final_eq (root header : Node) (x : Bytes) (hx : x.getLast? = some 10)
    (h : (∃ e, parse root header x = .soft e) ∨ (∃ e, parse root header x = .fatal e))
    (y : Bytes) : parse root header (x ++ y) = parse root header x := by
  have hf := parse_newline_final root header x hx
  rcases h with ⟨e, h⟩ | ⟨e, h⟩
  · rw [h] at hf ⊢
    exact hf nofun y
  · rw [h] at hf ⊢
    exact hf nofun y

/-- **T12.3**: … in particular no continuation of a rejected newline-terminated
input is accepted, so a streaming caller may safely discard it. -/
theorem parse_err_final (root header : Node) (x : Bytes) (hx : x.getLast? = some 10)
    (h : (∃ e, parse root header x = .soft e) ∨ (∃ e, parse root header x = .fatal e))
    (y : Bytes) : (parse root header (x ++ y)).isOk = false := by
  rw [parse_err_final_eq root header x hx h y]
  rcases h with ⟨e, h⟩ | ⟨e, h⟩
  · rw [h]
    rfl
  · rw [h]
    rfl

/-- **T12.4**: `incomplete` is returned only when the input ends inside a unit: no
prefix of the input is an accepted unit or empty message. -/
theorem parse_incomplete_only_inside (root header : Node) (x : Bytes)
    (h : parse root header x = .incomplete) (p q : Bytes) (hpq : x = p ++ q) :
    (parse root header p).isOk = false := by
  cases hp : parse root header p with
  | ok r c =>
    rw [hpq, parse_ok_append root header p q r c hp] at h
    cases h
  | _ => rfl

/-- The same read forwards: once a prefix is accepted the whole input is not `incomplete`
(by `parse_ok_append` it is accepted with the same call). -/
theorem parse_prefix_ok (root header : Node) (p q r : Bytes) (c : Option CommandCall)
    (h : parse root header p = .ok r c) : parse root header (p ++ q) ≠ .incomplete := by
  rw [parse_ok_append root header p q r c h]
  nofun

/-! ### Non-vacuity, on a tree with the single command `X` -/

/-- root with one child `X` that has a command handler. -/
def tree : Node := .mk 0 [([88], .mk 1 [] (some 0) none)] none none

/-- `X\n` is accepted and consumed entirely (hypothesis of T12.1/T12.2). -/
example : ∃ c, parse tree tree [88, 10] = .ok [] (some c) := ⟨_, rfl⟩

/-- … and with `X\n` appended the remainder is exactly what was appended. -/
example : ∃ c, parse tree tree ([88, 10] ++ [88, 10]) = .ok [88, 10] (some c) := ⟨_, rfl⟩

/-- `X "a;b\n";X\n`: the unit ends at the `;` after the string although the payload
contains both terminator bytes. -/
example : ∃ c, parse tree tree [88, 32, 34, 97, 59, 98, 10, 34, 59, 88, 10]
    = .ok [88, 10] (some c) := ⟨_, rfl⟩

/-- `Y\n` is rejected with an error (hypothesis of T12.3), as is `X ,\n`. -/
example : parse tree tree [89, 10] = .fatal (.std .UndefinedHeader) := by decide +kernel
example : parse tree tree [88, 32, 44, 10] = .soft (some (.std .InvalidCharacter)) := by
  decide +kernel
example : ([89, 10] : Bytes).getLast? = some 10 := rfl

/-- The newline in T12.3 is needed: `X 1e` is an error but `X 1e5\n` is accepted. -/
example : parse tree tree [88, 32, 49, 101] = .soft (some (.std .InvalidCharacter)) ∧
    (parse tree tree ([88, 32, 49, 101] ++ [53, 10])).isOk = true := by decide +kernel

/-- `X #11\n` ends with a newline that is block payload: the verdict is `incomplete`
(hypothesis of T12.4), not an error. -/
example : parse tree tree [88, 32, 35, 49, 49, 10] = .incomplete := by decide +kernel

end C12
end Scpi
