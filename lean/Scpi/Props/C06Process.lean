/-
C06, streaming half — "Every later message is executed exactly as if the faulty
message had never been sent, both when the messages are passed to run in one buffer
and when they arrive through process."

The half for `run` is `C06.later_messages_unaffected_closed`.  Here the same is shown
for the byte-at-a-time stream machine (`Scpi/Spec/Stream.lean`) and, through
`C07.process_refines_stream`, for `Interface::process::<N, _>` over every fault-free
read schedule.

A message — or several — is any byte string `m` that
* ends with a newline,
* fits in the `n`-byte command buffer (`m.length ≤ n`), and
* is consumed entirely by `run` (`rest = []`: no string or block is left open).
It may be faulty in any way (syntax error, undefined header, …: the errors go to
`I.onError`, i.e. into the user state) and it may contain newlines inside string or
block payloads.  After `m` the machine has nothing pending and its header path is the
root, so the only things that survive are the user state and the writes already made:
the bytes after `m` are processed exactly as a fresh `process` call would process them
on the user state `m` left.

Overflow (`stream_overflow_isolation`): an unfinished message that fills the command
buffer is forgotten completely, so the discarded bytes never influence what follows.

All theorems hold for every interface (tree, handlers, error handler); taking
`I.traced`/`I.logged` for `I` makes "which handlers ran with which parameters and
which errors were reported" part of the user state.
-/
import Scpi.Proofs.StreamMessages
import Scpi.Props.C07

namespace Scpi
namespace C06

/-- **T6.3 (stream machine, from any state between messages).**  If the machine has
nothing pending and its path is the root, then after a newline-terminated `m` that fits
in the buffer and that `run` consumes entirely (whatever writer and user state are used
for this check: the position does not depend on them) it is between messages again, and
any continuation `y` is processed as from the initial state with the user state `m`
left, the writes of `m` staying in front. -/
theorem stream_isolation_from {σ : Type} (I : Iface σ) (n : Nat) (m : Bytes) (st : SpecState σ)
    (w₀ : Writer) (s₀ : σ)
    (hm : m.getLast? = some 10) (hfit : m.length ≤ n) (hc : (run I m w₀ s₀).rest = [])
    (hp : st.pending = []) (hh : st.header = I.root) :
    (m.foldl (streamSpec I n) st).pending = [] ∧ (m.foldl (streamSpec I n) st).header = I.root ∧
    ∀ y, (m ++ y).foldl (streamSpec I n) st =
      (streamRun I n y (m.foldl (streamSpec I n) st).user).addOut
        (m.foldl (streamSpec I n) st).out := by
  obtain ⟨e, h1, h2⟩ := stream_closed I n m st w₀ s₀ hm hfit hc hp hh
  rw [← e] at h1 h2
  refine ⟨h1, h2, fun y => ?_⟩
  rw [List.foldl_append]
  have e := SpecState.eq_addOut_streamInit I _ h1 h2
  exact (congrArg (List.foldl (streamSpec I n) · y) e).trans (foldl_spec_addOut I n _ y _)

/-- **T6.3 (stream machine).**  Let `m` end with a newline, fit in the buffer and be
consumed entirely by `run` — a complete message or several, FAULTY OR NOT.  Then for
every continuation `y` the stream `m ++ y` is processed as `m` followed by a fresh
start on `y` with the user state `m` left:
* the machine is between messages after `m` (nothing pending, path at the root);
* the final user state is that of `y` run from the user state after `m`;
* the writes and flushes are those of `m` followed by those of `y`;
* what is pending at the end and the final path are those of `y` alone.
So every message in `y` selects its handler, gets its parameters and reports its
errors exactly as if `m` had never been sent, except for what `m` did to the user's
state. -/
theorem stream_isolation {σ : Type} (I : Iface σ) (n : Nat) (m : Bytes) (s : σ)
    (hm : m.getLast? = some 10) (hfit : m.length ≤ n)
    (hc : (run I m { cap := some n } s).rest = []) :
    (streamRun I n m s).pending = [] ∧ (streamRun I n m s).header = I.root ∧
    ∀ y,
      (streamRun I n (m ++ y) s).user = (streamRun I n y (streamRun I n m s).user).user ∧
      (streamRun I n (m ++ y) s).out =
        (streamRun I n m s).out ++ (streamRun I n y (streamRun I n m s).user).out ∧
      (streamRun I n (m ++ y) s).pending = (streamRun I n y (streamRun I n m s).user).pending ∧
      (streamRun I n (m ++ y) s).header = (streamRun I n y (streamRun I n m s).user).header := by
  obtain ⟨h1, h2, h3⟩ := stream_isolation_from I n m (streamInit I s) _ s hm hfit hc rfl rfl
  refine ⟨h1, h2, fun y => ?_⟩
  rw [show streamRun I n (m ++ y) s = _ from h3 y]
  exact ⟨rfl, rfl, rfl, rfl⟩

/-- **T6.3 (`process`)**: the same for `Interface::process::<N, _>` under every
fault-free read schedule.  `sc` delivers `m ++ y` in any chunking, `scm` delivers `m`
and `scy` delivers `y` (in any chunkings): the final user state of `sc` is that of
`scy` started on the user state `scm` ends in, and the writes and flushes of `sc` are
those of `scm` followed by those of `scy`. -/
theorem process_isolation {σ : Type} (I : Iface σ) (n : Nat) (sc scm scy : Script) (s : σ)
    (hf : sc.fault = none) (hfm : scm.fault = none) (hfy : scy.fault = none)
    (hs : sc.stream = scm.stream ++ scy.stream)
    (hm : scm.stream.getLast? = some 10) (hfit : scm.stream.length ≤ n)
    (hc : (run I scm.stream { cap := some n } s).rest = []) :
    (process I n sc s).user = (process I n scy (process I n scm s).user).user ∧
    (process I n sc s).trace.filter PEv.nonRead =
      (process I n scm s).trace.filter PEv.nonRead ++
      (process I n scy (process I n scm s).user).trace.filter PEv.nonRead := by
  have hn := pos_of_getLast_fits hm hfit
  obtain ⟨a, b, _, _⟩ := C07.process_refines_stream I n sc s hn hf
  obtain ⟨am, bm, _, _⟩ := C07.process_refines_stream I n scm s hn hfm
  obtain ⟨ay, bY, _, _⟩ := C07.process_refines_stream I n scy (process I n scm s).user hn hfy
  obtain ⟨_, _, h⟩ := stream_isolation I n scm.stream s hm hfit hc
  obtain ⟨h1, h2, _, _⟩ := h scy.stream
  rw [a, b, am, ay, bY, bm, hs, h1, h2]
  exact ⟨rfl, rfl⟩

/-- **One byte too many.**  When the byte just received makes the pending bytes fill the
buffer, the machine forgets them and the path: only the user state and the writes are
left, whatever the bytes were. -/
theorem stream_overflow_forgets {σ : Type} (I : Iface σ) (n : Nat) (st : SpecState σ) (b : Nat)
    (h : n ≤ (streamFeed I n st b).pending.length) :
    streamSpec I n st b = ⟨[], I.root, (streamFeed I n st b).user, (streamFeed I n st b).out⟩ :=
  if_pos h

/-- **T6.4 (overflow isolation, stream machine).**  `n` bytes without a newline — an
unfinished message that fills the command buffer — sent between messages are thrown
away without trace: the rest of the stream is processed as if they had never been
sent.  In particular two different over-long junk prefixes give the same behaviour. -/
theorem stream_overflow_isolation {σ : Type} (I : Iface σ) (n : Nat) (j y : Bytes) (s : σ)
    (hn : 1 ≤ n) (hj : ∀ b ∈ j, b ≠ 10) (hlen : j.length = n) :
    streamRun I n (j ++ y) s = streamRun I n y s := by
  unfold streamRun
  rw [List.foldl_append, stream_junk I n j (streamInit I s) hj ((Nat.zero_add _).trans hlen)
    (List.length_pos_iff.1 (hlen.symm ▸ hn))]
  rfl

/-- The same from any state `st` of the machine, with bytes already pending: whenever the
newline-free bytes `j` bring the pending bytes to exactly `n`, the machine is in the initial
state again except for user state and writes. -/
theorem stream_overflow_isolation_from {σ : Type} (I : Iface σ) (n : Nat) (j : Bytes)
    (st : SpecState σ) (hj : ∀ b ∈ j, b ≠ 10) (hlen : st.pending.length + j.length = n)
    (hne : j ≠ []) (y : Bytes) :
    (j ++ y).foldl (streamSpec I n) st = y.foldl (streamSpec I n) ⟨[], I.root, st.user, st.out⟩ := by
  rw [List.foldl_append, stream_junk I n j st hj hlen hne]

/-- **T6.4 (`process`)**: under every fault-free read schedule, a stream that starts with
`n` newline-free bytes is processed — same writes, same flushes, same final user
state — like the stream without them. -/
theorem process_overflow_isolation {σ : Type} (I : Iface σ) (n : Nat) (sc scy : Script) (j : Bytes)
    (s : σ) (hn : 1 ≤ n) (hf : sc.fault = none) (hfy : scy.fault = none)
    (hs : sc.stream = j ++ scy.stream) (hj : ∀ b ∈ j, b ≠ 10) (hlen : j.length = n) :
    (process I n sc s).user = (process I n scy s).user ∧
    (process I n sc s).trace.filter PEv.nonRead = (process I n scy s).trace.filter PEv.nonRead := by
  obtain ⟨a, b, _, _⟩ := C07.process_refines_stream I n sc s hn hf
  obtain ⟨ay, bY, _, _⟩ := C07.process_refines_stream I n scy s hn hfy
  rw [a, b, ay, bY, hs, stream_overflow_isolation I n j scy.stream s hn hj hlen]
  exact ⟨rfl, rfl⟩

/-! ## Non-vacuity -/

/-- The example interface of C07 (`Q?` answers `7`; the user state logs handler calls as
`none` and reported errors as `some e`).  `X⏎` is a faulty message (undefined header),
`Q?⏎` a good one. -/
def exFaulty : Bytes := [88, 10]
def exGood : Bytes := [81, 63, 10]

/-- The hypotheses of `stream_isolation` hold for the faulty message `X⏎` and `n = 4`. -/
example : exFaulty.getLast? = some 10 ∧ exFaulty.length ≤ 4 ∧
    (run C07.exI exFaulty { cap := some 4 } []).rest = [] := by decide +kernel

/-- The faulty message reports one error … -/
example : (streamRun C07.exI 4 exFaulty []).user = [some (.std .UndefinedHeader)] ∧
    (streamRun C07.exI 4 exFaulty []).out = [] := by decide +kernel

/-- … and the message after it runs as it would on its own on that user state. -/
example : (streamRun C07.exI 4 (exFaulty ++ exGood) []).user = [some (.std .UndefinedHeader), none] ∧
    (streamRun C07.exI 4 exGood [some (.std .UndefinedHeader)]).user
      = [some (.std .UndefinedHeader), none] ∧
    (streamRun C07.exI 4 (exFaulty ++ exGood) []).out = [.w [55, 10], .f] := by decide +kernel

def exBoth : Script := { stream := exFaulty ++ exGood, sizes := [1, 3, 1] }
def exFirst : Script := { stream := exFaulty, sizes := [2] }
def exSecond : Script := { stream := exGood, sizes := [1, 1, 1] }

/-- An instance of `process_isolation`. -/
example : (process C07.exI 4 exBoth []).user =
    (process C07.exI 4 exSecond (process C07.exI 4 exFirst []).user).user :=
  (process_isolation C07.exI 4 exBoth exFirst exSecond [] rfl rfl rfl rfl (by decide +kernel)
    (by decide +kernel) (by decide +kernel)).1

/-- … whose two sides are this value. -/
example : (process C07.exI 4 exBoth []).user = [some (.std .UndefinedHeader), none] := by
  decide +kernel

/-- The premise `rest = []` of `stream_isolation` cannot be dropped: `m = Q? "⏎` ends with a
newline and fits, but leaves a string open; the continuation `y = "⏎` then closes the string
(one parameter too many for `Q?`) instead of being the faulty message it is on its own. -/
example : (run C07.exI [81, 63, 32, 34, 10] { cap := some 8 } []).rest ≠ [] ∧
    (streamRun C07.exI 8 ([81, 63, 32, 34, 10] ++ [34, 10]) []).user
      = [some (.std .UnexpectedNumberOfParameters)] ∧
    (streamRun C07.exI 8 [34, 10] (streamRun C07.exI 8 [81, 63, 32, 34, 10] []).user).user
      = [some (.std .UndefinedHeader)] := by decide +kernel

/-- Overflow: four junk bytes fill the 4-byte buffer and are forgotten; `Q?⏎` after them
answers as usual (an instance of `stream_overflow_isolation`, and its value). -/
example : streamRun C07.exI 4 ([120, 121, 122, 119] ++ exGood) [] = streamRun C07.exI 4 exGood [] :=
  stream_overflow_isolation C07.exI 4 [120, 121, 122, 119] exGood [] (by decide +kernel)
    (by decide +kernel) rfl

example : (streamRun C07.exI 4 ([120, 121, 122, 119] ++ exGood) []).user = [none] ∧
    (streamRun C07.exI 4 ([120, 121, 122, 119] ++ exGood) []).out = [.w [55, 10], .f] := by
  decide +kernel

/-- The length premise of `stream_isolation` is needed: the complete message `Q?  ⏎` does
not fit in a 4-byte buffer; its first four bytes are discarded and the fifth, the
newline, is then an empty message — the handler that `run` invokes is never called. -/
example : (run C07.exI [81, 63, 32, 32, 10] { cap := some 4 } []).rest = [] ∧
    (run C07.exI [81, 63, 32, 32, 10] { cap := some 4 } []).s = [none] ∧
    (streamRun C07.exI 4 [81, 63, 32, 32, 10] []).user = [] := by decide +kernel

end C06
end Scpi
