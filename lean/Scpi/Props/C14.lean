/-
C14 — "If two handlers of one interface would be reachable by the same header
spelling and the same kind (command or query) - including collisions that arise
only through short/long forms or optional nodes - the program does not compile; a
declaration is never silently shadowed by another.  Declaration sets without
such a collision compile."

Model: the attribute macro inserts the declarations in order into a trie
(`insertAll emptyNode cmds 0`, Scpi/Macro.lean); a compile error is
`insertAll … = .error …`.  Specification: `Spells c p` (Scpi/Spec/Spelling.lean),
the set of key sequences obtained by choosing for every part its long form, its
short form or — for optional parts — nothing.

`compiles_iff` is the statement itself; `first_collision` / `first_collision_reported` say
which declaration a compile error reports; `lookup_iff` / `no_shadowing` say what the
compiled trie contains; `insertAll_invariant` is the general form, for any start tree.
-/
import Scpi.Proofs.MacroInsert
import Scpi.Proofs.Literals
import Scpi.Proofs.DeclText

namespace Scpi
namespace C14

/-- The macro's path enumeration `Command::paths` yields exactly the
spellings of the declaration: per part the long form, the short form, or nothing
if the part is optional. -/
theorem paths_iff (c : Command) (p : List Bytes) : p ∈ c.paths ↔ Expands c.parts p :=
  mem_paths_iff c p

example :
    let c : Command := ⟨[⟨true, [83], [83, 89]⟩, ⟨false, [84], [84, 73]⟩], true⟩
    [[84]] ∈ c.paths ∧ [[83, 89], [84]] ∈ c.paths ∧ ¬ [[83, 89]] ∈ c.paths := by decide +kernel

/-- Two declarations collide: same kind and a common spelling. -/
def Collide (c c' : Command) : Prop := c.query = c'.query ∧ ∃ p, Spells c p ∧ Spells c' p

/-- The same with the macro's enumeration. -/
def CollideP (c c' : Command) : Prop := c.query = c'.query ∧ ∃ p, p ∈ c.paths ∧ p ∈ c'.paths

theorem collideP_iff (c c' : Command) : CollideP c c' ↔ Collide c c' := by
  simp only [CollideP, Collide, Spells, mem_paths_iff]

theorem Collide.symm {c c' : Command} (h : Collide c c') : Collide c' c :=
  ⟨h.1.symm, h.2.elim fun p hp => ⟨p, hp.2, hp.1⟩⟩

instance (c c' : Command) : Decidable (Collide c c') :=
  decidable_of_iff (c.query = c'.query ∧ ∃ p ∈ c.paths, p ∈ c'.paths)
    (by simp only [← collideP_iff, CollideP])

theorem pathsDisjoint_iff (c c' : Command) : PathsDisjoint c c' ↔ ¬ Collide c c' := by
  simp only [PathsDisjoint, Collide, Spells, ← mem_paths_iff, not_and, not_exists]

/-- `Collide` is symmetric, so "pairwise" may be read over all pairs of different indices. -/
theorem pairwise_collide_iff (cmds : List Command) :
    cmds.Pairwise (fun a a' => ¬ Collide a a') ↔
      ∀ (i j : Nat) (c c' : Command), i ≠ j → cmds[i]? = some c → cmds[j]? = some c' → ¬ Collide c c' := by
  rw [List.pairwise_iff_getElem]
  constructor
  · intro h i j c c' hne hi hj
    obtain ⟨hi', rfl⟩ := List.getElem?_eq_some_iff.1 hi
    obtain ⟨hj', rfl⟩ := List.getElem?_eq_some_iff.1 hj
    rcases Nat.lt_or_gt_of_ne hne with hlt | hgt
    · exact h i j hi' hj' hlt
    · exact fun hc => h j i hj' hi' hgt hc.symm
  · intro h i j hi hj hlt
    exact h i j _ _ (Nat.ne_of_lt hlt) (List.getElem?_eq_getElem hi) (List.getElem?_eq_getElem hj)

theorem pairwise_iff (cmds : List Command) :
    cmds.Pairwise PathsDisjoint ↔
      ∀ (i j : Nat) (c c' : Command), i ≠ j → cmds[i]? = some c → cmds[j]? = some c' → ¬ Collide c c' := by
  rw [← pairwise_collide_iff]
  exact ⟨List.Pairwise.imp fun h => (pathsDisjoint_iff _ _).1 h,
    List.Pairwise.imp fun h => (pathsDisjoint_iff _ _).2 h⟩

/-- The general form: starting from any tree `n` whose ids are all below `start`,
`insertAll n cmds start`
* succeeds iff every path of every declaration is free (for its kind) in `n` and
  the declarations are pairwise collision-free;
* on success the resulting tree contains exactly the old entries and, for each
  declaration number `i` (counted from `start`), its paths under its kind.

`hb` is `Below n start` (Proofs/MacroInsert) written out. -/
theorem insertAll_invariant (n : Node) (cmds : List Command) (start : Nat)
    (hb : ∀ q p i, lookupId q n p = some i → i < start) :
    ((∃ n', insertAll n cmds start = .ok n') ↔
      (∀ c ∈ cmds, ∀ p, Spells c p → lookupId c.query n p = none) ∧
      (∀ (i j : Nat) (c c' : Command), i ≠ j → cmds[i]? = some c → cmds[j]? = some c' → ¬ Collide c c')) ∧
    (∀ n', insertAll n cmds start = .ok n' → ∀ q p i,
      lookupId q n' p = some i ↔
        lookupId q n p = some i ∨
          (start ≤ i ∧ ∃ c, cmds[i - start]? = some c ∧ c.query = q ∧ Spells c p)) := by
  refine ⟨?_, fun n' h q p i => ?_⟩
  · rw [insertAll_ok_iff_of_below n cmds start hb, pairwise_iff]
    simp only [Spells, ← mem_paths_iff]
  · rw [insertAll_lookup hb h q p i, owns_iff]
    simp only [Spells, ← mem_paths_iff]

/-- C14, both directions, against the abstract specification: the interface
compiles iff no two different declarations of the same kind have a common
spelling (through any combination of long forms, short forms and omitted
optional nodes). -/
theorem compiles_iff (cmds : List Command) :
    (∃ t, insertAll emptyNode cmds 0 = .ok t) ↔
      ∀ (i j : Nat) (c c' : Command), i ≠ j → cmds[i]? = some c → cmds[j]? = some c' → ¬ Collide c c' := by
  rw [(insertAll_invariant emptyNode cmds 0 (below_emptyNode 0)).1]
  exact and_iff_right fun c _ p _ => lookupId_empty _ _ _

/-- Compilation succeeds iff there are no two DIFFERENT declarations
`i ≠ j` of the same kind with a common path.  (A declaration never collides with
itself: `[AB]:[AB]` enumerates the path `AB` twice and compiles.) -/
theorem insertAll_ok_iff (cmds : List Command) :
    (∃ t, insertAll emptyNode cmds 0 = .ok t) ↔
      ∀ (i j : Nat) (c c' : Command), i ≠ j → cmds[i]? = some c → cmds[j]? = some c' →
        ¬ (c.query = c'.query ∧ ∃ p, p ∈ c.paths ∧ p ∈ c'.paths) := by
  simpa only [Collide, Spells, ← mem_paths_iff] using compiles_iff cmds

/-- Compilation succeeds iff the declaration list is pairwise collision-free
(a decidable criterion). -/
theorem compiles_iff_pairwise (cmds : List Command) :
    (∃ t, insertAll emptyNode cmds 0 = .ok t) ↔ cmds.Pairwise (fun a a' => ¬ Collide a a') := by
  rw [compiles_iff, pairwise_collide_iff]

/-- A collision is a compile error. -/
theorem collision_fails (cmds : List Command) {i j : Nat} {c c' : Command} (hne : i ≠ j)
    (hi : cmds[i]? = some c) (hj : cmds[j]? = some c') (hc : Collide c c') :
    ∃ e k t, insertAll emptyNode cmds 0 = .error (e, k, t) := by
  cases h : insertAll emptyNode cmds 0 with
  | ok t => exact absurd hc ((compiles_iff cmds).1 ⟨t, h⟩ i j c c' hne hi hj)
  | error x =>
    obtain ⟨e, k, t⟩ := x
    exact ⟨e, k, t, rfl⟩

/-- The compiled trie contains exactly the union of the spelled
paths: looking up path `p` for kind `q` by exact keys yields id `i` iff
declaration number `i` has kind `q` and spells `p`.  The left-hand side is `lookupId q t p`
with the definition written out (so is it in the theorems below): it matches a goal in `lookupId`
by `exact`/`change`, not by `rw`. -/
theorem lookup_iff {cmds : List Command} {t : Node} (h : insertAll emptyNode cmds 0 = .ok t)
    (p : List Bytes) (q : Bool) (i : Nat) :
    (walk t p).bind (slot q) = some i ↔ ∃ c, cmds[i]? = some c ∧ c.query = q ∧ Spells c p := by
  change lookupId q t p = some i ↔ _
  have := (insertAll_invariant emptyNode cmds 0 (below_emptyNode 0)).2 t h q p i
  simpa only [emptyNode, lookupId_empty, reduceCtorEq, false_or, Nat.zero_le, true_and,
    Nat.sub_zero] using this

/-- The same with the macro's enumeration. -/
theorem lookup_iff_paths {cmds : List Command} {t : Node}
    (h : insertAll emptyNode cmds 0 = .ok t) (p : List Bytes) (q : Bool) (i : Nat) :
    (walk t p).bind (slot q) = some i ↔ ∃ c, cmds[i]? = some c ∧ c.query = q ∧ p ∈ c.paths := by
  rw [lookup_iff h]
  simp only [Spells, ← mem_paths_iff]

/-- No declaration is shadowed: in a compiled interface every spelling of every
declaration reaches that declaration's own id — all spellings of one declaration
invoke the same handler, and no other declaration's. -/
theorem no_shadowing {cmds : List Command} {t : Node} (h : insertAll emptyNode cmds 0 = .ok t)
    {i : Nat} {c : Command} (hi : cmds[i]? = some c) {p : List Bytes} (hp : Spells c p) :
    (walk t p).bind (slot c.query) = some i :=
  (lookup_iff h p c.query i).2 ⟨c, hi, rfl, hp⟩

/-- Nothing else is in the trie: ids are declaration indices. -/
theorem lookup_lt {cmds : List Command} {t : Node} (h : insertAll emptyNode cmds 0 = .ok t)
    {p : List Bytes} {q : Bool} {i : Nat} (hl : (walk t p).bind (slot q) = some i) :
    i < cmds.length := by
  obtain ⟨c, hc, _⟩ := (lookup_iff h p q i).1 hl
  exact (List.getElem?_eq_some_iff.1 hc).1

/-- Declaration `c`, inserted with a new id into the tree `t` compiled from `pre`, is
rejected — with the error of its kind — exactly when it collides with one of `pre`. -/
theorem insertPaths_error_iff_collide {pre : List Command} {t : Node}
    (h : insertAll emptyNode pre 0 = .ok t) (c : Command) (e : MacroErr) :
    insertPaths t c.paths pre.length c.query = .error e ↔
      (∃ c' ∈ pre, Collide c' c) ∧ e = errKind c.query := by
  rw [insertPaths_error_iff, and_comm]
  refine and_congr_left fun _ => ⟨?_, ?_⟩
  · rintro ⟨p, hp, j, _, hj⟩
    obtain ⟨c', hc', hq, hp'⟩ := (lookup_iff h p c.query j).1 hj
    exact ⟨c', List.mem_of_getElem? hc', hq, p, hp', (mem_paths_iff c p).1 hp⟩
  · rintro ⟨c', hc', hq, p, hp', hp⟩
    obtain ⟨j, hj⟩ := List.getElem?_of_mem hc'
    exact ⟨p, (mem_paths_iff c p).2 hp, j, Nat.ne_of_lt (List.getElem?_eq_some_iff.1 hj).1,
      (lookup_iff h p c.query j).2 ⟨c', hj, hq, hp'⟩⟩

/-- The failing run: `k` is in range, the declarations before it compile to the
reported tree, declaration `k` collides with one of them, and the error is of its kind. -/
theorem error_iff (cmds : List Command) (e : MacroErr) (k : Nat) (t : Node) :
    insertAll emptyNode cmds 0 = .error (e, k, t) ↔
      ∃ c, cmds[k]? = some c ∧ insertAll emptyNode (cmds.take k) 0 = .ok t ∧
        (∃ c' ∈ cmds.take k, Collide c' c) ∧ e = errKind c.query := by
  have h0 := insertAll_error_iff emptyNode cmds 0 k e t
  rw [Nat.zero_add] at h0
  rw [h0]
  refine exists_congr fun c => and_congr_right fun hc => and_congr_right fun hpre => ?_
  have hlen : (cmds.take k).length = k := by
    rw [List.length_take]
    have := (List.getElem?_eq_some_iff.1 hc).1
    omega
  rw [← insertPaths_error_iff_collide hpre, hlen]

/-- Compilation fails at index `k` with error `e` iff the declarations before `k`
are pairwise collision-free, declaration `k` collides with one of them, and `e`
is the error kind of declaration `k` (a decidable criterion). -/
theorem fails_iff (cmds : List Command) (e : MacroErr) (k : Nat) :
    (∃ t, insertAll emptyNode cmds 0 = .error (e, k, t)) ↔
      ∃ c, cmds[k]? = some c ∧ (cmds.take k).Pairwise (fun a a' => ¬ Collide a a') ∧
        (∃ c' ∈ cmds.take k, Collide c' c) ∧
        e = (if c.query then .queryExists else .commandExists) := by
  simp only [error_iff, ← compiles_iff_pairwise]
  constructor
  · rintro ⟨t, c, hc, hpre, h⟩
    exact ⟨c, hc, ⟨t, hpre⟩, h⟩
  · rintro ⟨c, hc, ⟨t, hpre⟩, h⟩
    exact ⟨t, c, hc, hpre, h⟩

theorem mem_take_iff {cmds : List Command} {k : Nat} {c : Command} :
    c ∈ cmds.take k ↔ ∃ j, j < k ∧ cmds[j]? = some c := by
  simp only [List.mem_iff_getElem?, List.getElem?_take]
  exact exists_congr fun j => by split <;> simp [*]

/-- On a compile error: the reported index `k` is a declaration that collides
with an earlier one (`j < k`), no declaration before `k` collides with an
earlier one, the error kind is `queryExists` iff declaration `k` is a query (and
`commandExists` otherwise), and the reported tree is the one built from the
declarations before `k`. -/
theorem first_collision {cmds : List Command} {e : MacroErr} {k : Nat} {t : Node}
    (h : insertAll emptyNode cmds 0 = .error (e, k, t)) :
    ∃ c, cmds[k]? = some c ∧
      (∃ j c', j < k ∧ cmds[j]? = some c' ∧ Collide c' c) ∧
      (∀ (k' j : Nat) (a a' : Command), k' < k → j < k' → cmds[k']? = some a → cmds[j]? = some a' → ¬ Collide a' a) ∧
      e = (if c.query then .queryExists else .commandExists) ∧
      insertAll emptyNode (cmds.take k) 0 = .ok t := by
  obtain ⟨c, hc, hpre, ⟨c', hc', hcoll⟩, he⟩ := (error_iff cmds e k t).1 h
  obtain ⟨j, hj, hcj⟩ := mem_take_iff.1 hc'
  refine ⟨c, hc, ⟨j, c', hj, hcj, hcoll⟩, ?_, he, hpre⟩
  intro k' j a a' hk' hj ha ha'
  refine (compiles_iff _).1 ⟨t, hpre⟩ j k' a' a (Nat.ne_of_lt hj) ?_ ?_
  · rw [List.getElem?_take, if_pos (Nat.lt_trans hj hk')]
    exact ha'
  · rw [List.getElem?_take, if_pos hk']
    exact ha

/-- Conversely: if declaration `k` collides with an earlier one and no
declaration before `k` collides with an earlier one, then compilation fails and
reports exactly `k`. -/
theorem first_collision_reported {cmds : List Command} {k j : Nat} {c c' : Command}
    (hk : cmds[k]? = some c) (hj : cmds[j]? = some c') (hjk : j < k) (hc : Collide c' c)
    (hfirst : ∀ (k' j : Nat) (a a' : Command), k' < k → j < k' → cmds[k']? = some a → cmds[j]? = some a' →
      ¬ Collide a' a) :
    ∃ t, insertAll emptyNode cmds 0 =
      .error (if c.query then .queryExists else .commandExists, k, t) := by
  refine (fails_iff cmds _ k).2 ⟨c, hk, ?_, ⟨c', mem_take_iff.2 ⟨j, hjk, hj⟩, hc⟩, rfl⟩
  rw [List.pairwise_iff_getElem]
  intro i i' hi hi' hlt
  rw [List.length_take] at hi hi'
  refine hfirst i' i _ _ (by omega) hlt ?_ ?_ <;>
    rw [List.getElem_take, List.getElem?_eq_getElem]

example : decls ["SYSTem:ERRor:[NEXT]?"] =
    [⟨[⟨false, b "SYST", b "SYSTEM"⟩, ⟨false, b "ERR", b "ERROR"⟩, ⟨true, b "NEXT", b "NEXT"⟩],
      true⟩] := by
  rw [decls_cons_ok parse_systErrNext]
  rfl

/-- The standard error-queue declarations compile … -/
example : ∃ t, insertAll emptyNode (decls ["SYSTem:ERRor:[NEXT]?", "SYSTem:ERRor:COUNt?"]) 0 = .ok t := by
  rw [decls_cons_ok parse_systErrNext_bytes, decls_cons_ok parse_systErrCount_bytes]
  exact (compiles_iff_pairwise _).2 (by decide +kernel)

/-- … so `lookup_iff` applies to them: `SYST:ERR?` (optional node omitted) reaches
declaration 0, `SYSTEM:ERROR:COUN?` declaration 1, and the command `SYST:ERR` (no
query mark) does not reach declaration 0. -/
example (t : Node)
    (h : insertAll emptyNode (decls ["SYSTem:ERRor:[NEXT]?", "SYSTem:ERRor:COUNt?"]) 0 = .ok t) :
    (walk t [b "SYST", b "ERR"]).bind (slot true) = some 0 ∧
    (walk t [b "SYSTEM", b "ERROR", b "COUN"]).bind (slot true) = some 1 ∧
    ¬ (walk t [b "SYST", b "ERR"]).bind (slot false) = some 0 := by
  rw [decls_cons_ok parse_systErrNext_bytes, decls_cons_ok parse_systErrCount_bytes] at h
  repeat rewrite [b_ofList]
  refine ⟨(lookup_iff h _ _ _).2 ⟨_, rfl, rfl, by decide +kernel⟩,
    (lookup_iff h _ _ _).2 ⟨_, rfl, rfl, by decide +kernel⟩, ?_⟩
  rw [lookup_iff h]
  rintro ⟨c, hc, hq, _⟩
  cases hc
  cases hq

/-- A declaration whose own paths coincide (`[AB]:[AB]` spells `AB` twice) compiles. -/
example : ∃ t, insertAll emptyNode (decls ["[AB]:[AB]"]) 0 = .ok t := by
  rw [decls_cons]
  exact (compiles_iff_pairwise _).2 (by decide +kernel)
example : (decls ["[AB]:[AB]"])[0].paths = [[b "AB", b "AB"], [b "AB"], [b "AB"], []] := by
  conv in decls _ => rw [decls_cons]
  rw [b_ofList]
  decide +kernel

/-- Command and query of the same header do not collide. -/
example : ∃ t, insertAll emptyNode (decls ["VOLTage", "VOLTage?"]) 0 = .ok t := by
  rw [decls_cons, decls_cons]
  exact (compiles_iff_pairwise _).2 (by decide +kernel)

/-- Collision only through the short form: reported at index 2 as `commandExists`. -/
example : ∃ t, insertAll emptyNode (decls ["FREQuency", "VOLTage", "VOLT"]) 0 =
    .error (.commandExists, 2, t) := by
  rw [decls_cons, decls_cons, decls_cons]
  exact (fails_iff _ _ _).2 (by decide +kernel)

/-- Collision only through an optional node, query kind. -/
example : ∃ t, insertAll emptyNode (decls ["*IDN?", "[SOURce]:FREQuency?", "FREQ?"]) 0 =
    .error (.queryExists, 2, t) := by
  rw [decls_cons, decls_cons, decls_cons]
  exact (fails_iff _ _ _).2 (by decide +kernel)

example : Collide (decls ["[SOURce]:FREQuency?"])[0] (decls ["FREQ?"])[0] := by
  conv in (occs := *) decls _ => all_goals rw [decls_cons]
  decide +kernel
example : ¬ Collide (decls ["SYSTem:ERRor:[NEXT]?"])[0] (decls ["SYSTem:ERRor:COUNt?"])[0] := by
  simp only [decls_cons_ok parse_systErrNext_bytes, decls_cons_ok parse_systErrCount_bytes]
  decide +kernel

end C14
end Scpi
