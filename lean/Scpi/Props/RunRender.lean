/-
The message-level refinement theorem: what a whole well-formed program MESSAGE means.

Specification (Scpi/Spec/MsgAst.lean, namespace `Scpi.Msg`; no bytes, no white space,
no parser):

    specExec I cur []        w s = (w, s)
    specExec I cur (u :: us) w s =
      match resolve I.root cur u.hdr.path with
      | none                => (w, I.onError s UndefinedHeader)        -- rest of the message dropped
      | some (node, parent) =>
        let (w', s') := specUnit I node u.hdr.query (u.lits.map Lit.value) w s
        specExec I (parent.getD cur) us w' s'

`resolve` is the SCPI path rule (absolute ⇒ from the root, relative ⇒ from `cur`,
common ⇒ child `*NAME` of the root, no new path), `specUnit` is one unit on its node
(slot by `?`, arity, conversion left to right, handler, response; one `onError` for
whichever of these fails).

Main theorem `run_render`: for every interface `I` (every tree, all handlers, every
error handler), every rendering `renderMsg m` of a non-empty list of well-formed units
(any white space where the syntax allows it, CR LF, any letter case, any payloads),
every writer, user state, current path `cur` and ANY continuation `rest`:

    runFrom I cur (renderMsg m ++ rest) w s = runFrom I I.root rest w' s'
        where (w', s') = specExec I cur (units m) w s

under ONE side condition, `dropSafe I.root cur (units m)`: if some header does not
resolve, then that unit and the units after it contain no newline inside a string or
block payload.  The condition cannot be dropped (`run_render_needs_dropSafe`): after
an undefined header the interpreter skips to the first BYTE 10, not to the message
terminator.  It holds in particular when every header resolves
(`run_render_resolving`: no condition on payloads at all) and when no payload
contains a newline (`run_render_nlFree`: no condition on headers at all).

`run_render_open` is the same theorem for the message whose last unit is followed by
`;` (`X;⏎`) and for the empty message (white space and newline).

What is NOT covered: messages with units that are not well-formed (syntax errors:
`Scpi.C06`), strings with doubled quotes (the AST `Lit.str` has payloads
without the quote character), more than ten parameters.

Proofs: Scpi/Proofs/MsgUnit.lean, MsgNewline.lean, MsgRun.lean (on top of
`Scpi.parse_render`, Scpi/Proofs/RenderParse.lean, and the one-step equations of `runFrom`).
Corollaries for C01, C02, C03, C08, C11: Scpi/Props/RunRenderCor.lean.
-/
import Scpi.Proofs.MsgRun

namespace Scpi
namespace Msg

/-- **Message-level refinement.**  Running the interpreter on any rendering of a
message, followed by anything, is: do what `specExec` says, then run on what follows
FROM THE ROOT.  (`hne`: `renderMsg [] = []` has no terminator behind which to restart.) -/
theorem run_render {σ : Type} (I : Iface σ) (m : List (MsgUnit × Lex)) (cur : Node) (rest : Bytes)
    (w : Writer) (s : σ) (hne : m ≠ []) (hwf : wfMsg m = true)
    (hsafe : dropSafe I.root cur (units m) = true) :
    runFrom I cur (renderMsg m ++ rest) w s =
      runFrom I I.root rest (specExec I cur (units m) w s).1 (specExec I cur (units m) w s).2 := by
  obtain ⟨m, u, ℓ, rfl, hwm, hu, hℓ, hfit⟩ := exists_concat_of_wfMsg hne hwf
  rw [units_concat] at hsafe ⊢
  rw [renderMsg_concat, List.append_assoc]
  -- the units before the last by `run_renderSemis`; the last one is ended by the terminator
  refine run_renderSemis I _ rest [u] (fun hn => ?_) (fun cur w s hd => ?_) m cur w s hwm hsafe
  · simp only [List.all_cons, List.all_nil, Bool.and_true] at hn
    exact afterNewline_render (unitBody_noNl_of_wf hu hℓ hn) .nl rest
  · simp only [dropSafe, specExec] at hd ⊢
    cases hr : resolve I.root cur u.hdr.path with
    | none =>
      rw [hr] at hd
      simp only [List.all_cons, List.all_nil, Bool.and_true] at hd
      exact runFrom_render_unresolved I cur u ℓ .nl rest w s hu hℓ hfit hr rest
        (afterNewline_render (unitBody_noNl_of_wf hu hℓ hd) .nl rest)
    | some np => exact runFrom_render_resolved I cur u ℓ .nl rest w s hu hℓ hfit _ _ hr

/-- **A whole message on its own**: everything is consumed, the path is back at the
root, nothing crashed, and writer and user state are those of `specExec`. -/
theorem run_render_run {σ : Type} (I : Iface σ) (m : List (MsgUnit × Lex)) (w : Writer) (s : σ)
    (hne : m ≠ []) (hwf : wfMsg m = true) (hsafe : dropSafe I.root I.root (units m) = true) :
    run I (renderMsg m) w s =
      { rest := [], header := I.root, w := (specExec I I.root (units m) w s).1,
        s := (specExec I I.root (units m) w s).2, crash := none } := by
  have := run_render I m I.root [] w s hne hwf hsafe
  rw [List.append_nil, runFrom_nil] at this
  exact this

/-- The empty message does nothing (but resets the path). -/
theorem run_render_empty {σ : Type} (I : Iface σ) (ws : Bytes) (cur : Node) (rest : Bytes)
    (w : Writer) (s : σ) (hws : allWs ws = true) :
    runFrom I cur (ws ++ 10 :: rest) w s = runFrom I I.root rest w s :=
  C02.runFrom_empty_message I cur _ rest w s
    (List.append_ne_nil_of_right_ne_nil _ (List.cons_ne_nil _ _)) (parse_empty I.root cur rest hws)

/-- The message with a `;` after its last unit, and the empty message (`m = []`). -/
theorem run_render_open {σ : Type} (I : Iface σ) (m : List (MsgUnit × Lex)) (ws : Bytes) (cur : Node)
    (rest : Bytes) (w : Writer) (s : σ) (hwf : wfMsg m = true) (hws : allWs ws = true)
    (hsafe : dropSafe I.root cur (units m) = true) :
    runFrom I cur (renderOpen m ws ++ rest) w s =
      runFrom I I.root rest (specExec I cur (units m) w s).1 (specExec I cur (units m) w s).2 := by
  have := run_renderSemis I (ws ++ 10 :: rest) rest []
    (fun _ => afterNewline_skip (noNl_iff.1 (allWs_noNl hws)) _)
    (fun cur w s _ => run_render_empty I ws cur rest w s hws) m cur w s hwf
    (by rwa [List.append_nil])
  simpa only [renderOpen, List.append_assoc, List.cons_append, List.nil_append, List.append_nil]
    using this

/-- **All headers resolve**: no condition on the payloads — strings and blocks may
contain newlines, semicolons, commas. -/
theorem run_render_resolving {σ : Type} (I : Iface σ) (m : List (MsgUnit × Lex)) (cur : Node)
    (rest : Bytes) (w : Writer) (s : σ) (hne : m ≠ []) (hwf : wfMsg m = true)
    (hres : allResolve I.root cur (units m) = true) :
    runFrom I cur (renderMsg m ++ rest) w s =
      runFrom I I.root rest (specExec I cur (units m) w s).1 (specExec I cur (units m) w s).2 :=
  run_render I m cur rest w s hne hwf (dropSafe_of_allResolve I.root cur _ hres)

/-- **No newline in any payload**: no condition on the headers — the first one that
does not resolve costs one `UndefinedHeader` and the rest of the message is dropped. -/
theorem run_render_nlFree {σ : Type} (I : Iface σ) (m : List (MsgUnit × Lex)) (cur : Node)
    (rest : Bytes) (w : Writer) (s : σ) (hne : m ≠ []) (hwf : wfMsg m = true)
    (hfree : (units m).all unitNlFree = true) :
    runFrom I cur (renderMsg m ++ rest) w s =
      runFrom I I.root rest (specExec I cur (units m) w s).1 (specExec I cur (units m) w s).2 :=
  run_render I m cur rest w s hne hwf (dropSafe_of_nlFree I.root cur _ hfree)

/-- The failing case on its own: the first unit's header does not resolve; it and the
units after it are free of newlines.  One error, nothing executed, nothing written,
and the run goes on behind the message terminator. -/
theorem run_render_undefined {σ : Type} (I : Iface σ) (u : MsgUnit) (ℓ : Lex)
    (m : List (MsgUnit × Lex)) (cur : Node) (rest : Bytes) (w : Writer) (s : σ)
    (hwf : wfMsg ((u, ℓ) :: m) = true) (hr : resolve I.root cur u.hdr.path = none)
    (hfree : (u :: units m).all unitNlFree = true) :
    runFrom I cur (renderMsg ((u, ℓ) :: m) ++ rest) w s =
      runFrom I I.root rest w (I.onError s (.std .UndefinedHeader)) := by
  have hd : dropSafe I.root cur (units ((u, ℓ) :: m)) = true := by
    simp only [units, List.map_cons, dropSafe, hr]
    exact hfree
  have := run_render I ((u, ℓ) :: m) cur rest w s (List.cons_ne_nil _ _) hwf hd
  simpa only [units, List.map_cons, specExec, hr] using this

/-- `specUnit` is the model's `execute` followed by the error report of the loop. -/
theorem specUnit_is_execute {σ : Type} (I : Iface σ) (call : CommandCall) (w : Writer) (s : σ) :
    specUnit I call.node call.query call.args w s =
      ((execute I call w s).2.1,
       match (execute I call w s).2.2 with
       | .err e => I.onError (execute I call w s).1 e
       | _ => (execute I call w s).1) := by
  rw [specUnit_eq_execute]
  cases (execute I call w s).2.2 <;> rfl

/-! ## Non-vacuity: a tiny interface

Tree `X` (command 0, query 4: answers 7), `S:A` (1), `S:B` (2), `S:P <string>,<block>`
(5), `*C` (3).  Every handler appends its number and the parameters it received to the
user state; the error handler appends 99.  (`Scpi.Demo` of Scpi/Proofs/RunStepsDemo.lean
records the handler numbers only and has `T <string>` and `F <u8>` in place of `S:P`.) -/

namespace Demo

def nS : Node :=
  .mk 2 [([65], .mk 3 [] (some 1) none), ([66], .mk 4 [] (some 2) none),
         ([80], .mk 6 [] (some 5) none)] none none

def tree : Node :=
  .mk 0 [([88], .mk 1 [] (some 0) (some 4)), ([83], nS), ([42, 67], .mk 5 [] (some 3) none)]
    none none

def log (n : Nat) (tys : List Ty) : Cmd (List (Nat × List TVal)) :=
  { argTys := tys, handler := fun s tvs => (s ++ [(n, tvs)], .ok .unit) }

def I : Iface (List (Nat × List TVal)) :=
  { root := tree
    cmds := [log 0 [], log 1 [], log 2 [], log 3 [],
             { argTys := [], handler := fun s _ => (s ++ [(4, [])], .ok (.int 7)) },
             log 5 [.str, .bytes]]
    onError := fun s _ => s ++ [(99, [])] }

def W : Writer := { cap := none }

def unit (p : HdrPath) : MsgUnit := { hdr := { path := p, query := false }, lits := [] }

/-- `s:a`; with `uB`, `uX`, `uC` the units of `s:a ; b ; :x ; *c`. -/
def uA : MsgUnit := unit (.compound false [[115], [97]])
def uB : MsgUnit := unit (.compound false [[98]])
def uX : MsgUnit := unit (.compound true [[120]])
def uC : MsgUnit := unit (.common [99])

/-- No white space at all. -/
def tight : Lex := { lead := [], sep := [], commas := [], trail := [] }
/-- Blanks and tabs around everything. -/
def loose : Lex := { lead := [32], sep := [9], commas := [([32], [32])], trail := [32, 9] }
/-- … and a carriage return before the terminator. -/
def looseCR : Lex := { loose with trail := [32, 13] }

/-- `s:a;b;:x;*c⏎` -/
def msg1 : List (MsgUnit × Lex) := [(uA, tight), (uB, tight), (uX, tight), (uC, tight)]
/-- ` s:a\t \t; b\t \t; :x\t \t; *c\t \r⏎` -/
def msg2 : List (MsgUnit × Lex) := [(uA, loose), (uB, loose), (uX, loose), (uC, looseCR)]

example : renderMsg msg1 = [115, 58, 97, 59, 98, 59, 58, 120, 59, 42, 99, 10] := by decide +kernel
example : renderMsg msg2 =
    [32, 115, 58, 97, 9, 32, 9, 59, 32, 98, 9, 32, 9, 59, 32, 58, 120, 9, 32, 9, 59,
     32, 42, 99, 9, 32, 13, 10] := by decide +kernel

/-- The side conditions on the two renderings (used below and in
Scpi/Props/RunRenderCor.lean). -/
theorem msg12_hyps : msg1 ≠ [] ∧ wfMsg msg1 = true ∧ wfMsg msg2 = true ∧ units msg1 = units msg2 ∧
    dropSafe I.root I.root (units msg1) = true ∧ allResolve I.root I.root (units msg1) = true := by
  decide +kernel

/-- The hypotheses of `run_render` hold for both renderings … -/
example : msg1 ≠ [] ∧ wfMsg msg1 = true ∧ wfMsg msg2 = true ∧ units msg1 = units msg2 ∧
    dropSafe I.root I.root (units msg1) = true ∧ allResolve I.root I.root (units msg1) = true :=
  msg12_hyps

/-- … the specification says: handlers 1, 2, 0, 3 in this order, no error … -/
example : (specExec I I.root (units msg1) W []).2 = [(1, []), (2, []), (0, []), (3, [])] := by
  decide +kernel

/-- … and so does the interpreter on the bytes (computed independently of the theorem). -/
example : (run I (renderMsg msg1) W []).s = [(1, []), (2, []), (0, []), (3, [])] ∧
    (run I (renderMsg msg2) W []).s = [(1, []), (2, []), (0, []), (3, [])] ∧
    (run I (renderMsg msg2) W []).rest = [] ∧ (run I (renderMsg msg2) W []).header.tag = 0 := by
  decide +kernel

/-- The theorem, instantiated. -/
example : run I (renderMsg msg2) W [] =
    { rest := [], header := I.root, w := (specExec I I.root (units msg1) W []).1,
      s := (specExec I I.root (units msg1) W []).2, crash := none } :=
  run_render_run I msg2 W [] (List.cons_ne_nil _ _) msg12_hyps.2.2.1
    (msg12_hyps.2.2.2.1 ▸ msg12_hyps.2.2.2.2.1)

/-- `s:a;x;b⏎`: `x` is looked up under `S` — undefined; `b` is dropped. -/
def msg3 : List (MsgUnit × Lex) :=
  [(uA, tight), (unit (.compound false [[120]]), loose), (uB, tight)]

example : wfMsg msg3 = true ∧ dropSafe I.root I.root (units msg3) = true ∧
    allResolve I.root I.root (units msg3) = false ∧
    (specExec I I.root (units msg3) W []).2 = [(1, []), (99, [])] ∧
    (run I (renderMsg msg3) W []).s = [(1, []), (99, [])] := by decide +kernel

/-- `x?`; with `uP` and `uB` the units of `x?;s:p "a;b,⏎",#14;,⏎⏎;b⏎` (`msg4`, white space
not shown) — a query and payloads with every delimiter; run below with a trailing semicolon
(`renderOpen`). -/
def uQ : MsgUnit := { hdr := { path := .compound false [[120]], query := true }, lits := [] }
def uP : MsgUnit :=
  { hdr := { path := .compound false [[115], [112]], query := false },
    lits := [.str 34 [97, 59, 98, 44, 10], .block 1 [59, 44, 10, 10]] }

def msg4 : List (MsgUnit × Lex) := [(uQ, tight), (uP, loose), (uB, loose)]

example : wfMsg msg4 = true ∧ allResolve I.root I.root (units msg4) = true ∧
    (units msg4).all unitNlFree = false := by decide +kernel

example : (specExec I I.root (units msg4) W []).2 =
      [(4, []), (5, [.str [97, 59, 98, 44, 10], .bytes [59, 44, 10, 10]]), (2, [])] ∧
    (specExec I I.root (units msg4) W []).1.buf = [55, 10] := by decide +kernel

example : (run I (renderOpen msg4 [32]) W []).s =
      [(4, []), (5, [.str [97, 59, 98, 44, 10], .bytes [59, 44, 10, 10]]), (2, [])] ∧
    (run I (renderOpen msg4 [32]) W []).w.buf = [55, 10] ∧
    (run I (renderOpen msg4 [32]) W []).rest = [] := by decide +kernel

end Demo

/-- **The side condition is needed.**  `y "a⏎b"⏎` (an undefined header followed by a
well-formed string parameter that contains a newline): `specExec` reports one error;
the interpreter skips to the newline INSIDE the string and runs `b"⏎` as a message of
its own — a second error.  (The same finding as `Scpi.C06.newline_in_string_after_fault`.) -/
theorem run_render_needs_dropSafe :
    let u : MsgUnit := { hdr := { path := .compound false [[121]], query := false },
                         lits := [.str 34 [97, 10, 98]] }
    let m := [(u, Demo.loose)]
    wfMsg m = true ∧ dropSafe Demo.I.root Demo.I.root (units m) = false ∧
    (specExec Demo.I Demo.I.root (units m) Demo.W []).2 = [(99, [])] ∧
    (run Demo.I (renderMsg m) Demo.W []).s = [(99, []), (99, [])] := by
  decide +kernel

end Msg
end Scpi
