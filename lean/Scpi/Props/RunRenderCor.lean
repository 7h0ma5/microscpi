/-
Corollaries of the message-level refinement theorem `Scpi.Msg.run_render`
(Scpi/Props/RunRender.lean) for five properties.  All of them hold for every interface
(every tree, all handlers, every error handler), every writer and user state; those
about whole messages of any length carry the side condition `dropSafe` of `run_render`
(`hsafe`; it holds when every header resolves and when no payload contains a newline).

Vocabulary (Scpi/Spec/MsgAst.lean): `onNode I node u (w, s)` — the unit `u` executed on
`node` (`specUnit`); `resume I rest (w, s)` — go on with `rest` from the root;
`finished I (w, s)` — the outcome "everything consumed, path at the root, no crash".
-/
import Scpi.Props.RunRender
import Scpi.Proofs.MsgCor
import Scpi.Proofs.UnitVerdict

namespace Scpi

/-! ## C11 — white space, CR LF and letter case are irrelevant for whole messages -/

namespace C11
open Msg

/-- **Lexical choices are irrelevant.**  Two renderings of the same unit list — any
white space before each unit, between header and parameters, around each comma, before
each `;` and before the terminator, CR LF or LF — followed by the same bytes give the
same run: the same writer (responses), user state (handlers run, errors reported),
unread rest, path and crash flag. -/
theorem run_render_lex_irrelevant {σ : Type} (I : Iface σ) (m₁ m₂ : List (MsgUnit × Lex))
    (cur : Node) (rest : Bytes) (w : Writer) (s : σ) (hne : m₁ ≠ []) (hw₁ : wfMsg m₁ = true)
    (hw₂ : wfMsg m₂ = true) (hu : units m₁ = units m₂)
    (hsafe : dropSafe I.root cur (units m₁) = true) :
    runFrom I cur (renderMsg m₁ ++ rest) w s = runFrom I cur (renderMsg m₂ ++ rest) w s := by
  have hne₂ : m₂ ≠ [] := by
    intro e
    subst e
    exact hne (List.map_eq_nil_iff.1 hu)
  rw [run_render I m₁ cur rest w s hne hw₁ hsafe,
    run_render I m₂ cur rest w s hne₂ hw₂ (hu ▸ hsafe), hu]

/-- The same for `run` on the message alone. -/
theorem run_lex_irrelevant {σ : Type} (I : Iface σ) (m₁ m₂ : List (MsgUnit × Lex)) (w : Writer)
    (s : σ) (hne : m₁ ≠ []) (hw₁ : wfMsg m₁ = true) (hw₂ : wfMsg m₂ = true)
    (hu : units m₁ = units m₂) (hsafe : dropSafe I.root I.root (units m₁) = true) :
    run I (renderMsg m₁) w s = run I (renderMsg m₂) w s := by
  have := run_render_lex_irrelevant I m₁ m₂ I.root [] w s hne hw₁ hw₂ hu hsafe
  simp only [List.append_nil] at this
  exact this

/-- **Letter case is irrelevant.**  Two messages whose units have the same literals and
query flags and headers that differ only in the letter case of the mnemonics
(`SameUpToCase`), each in ANY white space, give the same run. -/
theorem run_render_case_irrelevant {σ : Type} (I : Iface σ) (m₁ m₂ : List (MsgUnit × Lex))
    (cur : Node) (rest : Bytes) (w : Writer) (s : σ) (hne₁ : m₁ ≠ []) (hne₂ : m₂ ≠ [])
    (hw₁ : wfMsg m₁ = true) (hw₂ : wfMsg m₂ = true) (hu : SameUpToCase (units m₁) (units m₂))
    (hsafe : dropSafe I.root cur (units m₁) = true) :
    runFrom I cur (renderMsg m₁ ++ rest) w s = runFrom I cur (renderMsg m₂ ++ rest) w s := by
  rw [run_render I m₁ cur rest w s hne₁ hw₁ hsafe,
    run_render I m₂ cur rest w s hne₂ hw₂ (dropSafe_sameUpToCase I.root _ _ hu cur ▸ hsafe),
    specExec_sameUpToCase I _ _ hu]

/-- In particular: every mnemonic in lower case (the result is again well-formed). -/
theorem run_render_lower {σ : Type} (I : Iface σ) (m : List (MsgUnit × Lex)) (cur : Node)
    (rest : Bytes) (w : Writer) (s : σ) (hne : m ≠ []) (hw : wfMsg m = true)
    (hsafe : dropSafe I.root cur (units m) = true) :
    wfMsg (mapMsgCase toLowerAscii m) = true ∧
    runFrom I cur (renderMsg (mapMsgCase toLowerAscii m) ++ rest) w s =
      runFrom I cur (renderMsg m ++ rest) w s :=
  run_render_mapCase I mapPath_lower_same m cur rest w s hne hw hsafe

/-- … or in upper case. -/
theorem run_render_upper {σ : Type} (I : Iface σ) (m : List (MsgUnit × Lex)) (cur : Node)
    (rest : Bytes) (w : Writer) (s : σ) (hne : m ≠ []) (hw : wfMsg m = true)
    (hsafe : dropSafe I.root cur (units m) = true) :
    wfMsg (mapMsgCase toUpperAscii m) = true ∧
    runFrom I cur (renderMsg (mapMsgCase toUpperAscii m) ++ rest) w s =
      runFrom I cur (renderMsg m ++ rest) w s :=
  run_render_mapCase I mapPath_upper_same m cur rest w s hne hw hsafe

/-- Non-vacuity: the two renderings `s:a;b;:x;*c⏎` and ` s:a\t \t; b … *c\t \r⏎` of
`Scpi/Props/RunRender.lean` and the upper-case spelling `S:A;B;:X;*C⏎`. -/
example : run Msg.Demo.I (renderMsg Msg.Demo.msg1) Msg.Demo.W [] =
    run Msg.Demo.I (renderMsg Msg.Demo.msg2) Msg.Demo.W [] :=
  have h := Msg.Demo.msg12_hyps
  run_lex_irrelevant _ _ _ _ _ h.1 h.2.1 h.2.2.1 h.2.2.2.1 h.2.2.2.2.1

example : renderMsg (mapMsgCase toUpperAscii Msg.Demo.msg1) =
    [83, 58, 65, 59, 66, 59, 58, 88, 59, 42, 67, 10] := by decide +kernel

example : (run Msg.Demo.I (renderMsg (mapMsgCase toUpperAscii Msg.Demo.msg1)) Msg.Demo.W []).s =
    [(1, []), (2, []), (0, []), (3, [])] := by decide +kernel

end C11

/-! ## C02 — the path rule and the independence of messages -/

namespace C02
open Msg

/-- **The path rule.**  A unit whose header resolves to `node` with parent `parent`
(`none` for a common command) and that is followed by `;` is executed on `node`, and
the remainder of the message is read with the path `parent.getD cur`: the parent of
the node addressed — the header without its last mnemonic — or the path unchanged
after a common command.  (No side condition: the unit is executed, whatever its
payloads.) -/
theorem path_rule {σ : Type} (I : Iface σ) (cur : Node) (u : MsgUnit) (ℓ : Lex)
    (m : List (MsgUnit × Lex)) (rest : Bytes) (w : Writer) (s : σ) (hne : m ≠ [])
    (hu : u.wf = true) (hℓ : ℓ.wf = true) (hfit : ℓ.fits u = true) (node : Node)
    (parent : Option Node) (hr : resolve I.root cur u.hdr.path = some (node, parent)) :
    runFrom I cur (renderMsg ((u, ℓ) :: m) ++ rest) w s =
      runFrom I (parent.getD cur) (renderMsg m ++ rest)
        (onNode I node u (w, s)).1 (onNode I node u (w, s)).2 := by
  rw [renderMsg_cons u ℓ hne, List.append_assoc]
  exact runFrom_render_resolved I cur u ℓ .semi _ w s hu hℓ hfit node parent hr

/-- What `resolve` is, case by case: a relative header is walked from the current
path, an absolute one from the root, a common one is a child of the root and reports
no parent. -/
theorem path_rule_resolve (root cur : Node) (ms : List Bytes) (n : Bytes) :
    resolve root cur (.compound false ms) = resolveFrom cur ms ∧
    resolve root cur (.compound true ms) = resolveFrom root ms ∧
    resolve root cur (.common n) = (root.child (42 :: n)).map fun node => (node, none) :=
  ⟨rfl, rfl, rfl⟩

/-- **`u₁ ; u₂` with `u₂` relative**: `u₂` is resolved from the PARENT `p₁` of the node
`u₁` addressed, and executed on the writer and state `u₁` left. -/
theorem path_rule_relative {σ : Type} (I : Iface σ) (cur : Node) (u₁ u₂ : MsgUnit) (ℓ₁ ℓ₂ : Lex)
    (rest : Bytes) (w : Writer) (s : σ) (hw : wfMsg [(u₁, ℓ₁), (u₂, ℓ₂)] = true)
    (n₁ p₁ : Node) (h₁ : resolve I.root cur u₁.hdr.path = some (n₁, some p₁))
    (ms : List Bytes) (hrel : u₂.hdr.path = .compound false ms)
    (n₂ : Node) (q₂ : Option Node) (h₂ : resolveFrom p₁ ms = some (n₂, q₂)) :
    runFrom I cur (renderMsg [(u₁, ℓ₁), (u₂, ℓ₂)] ++ rest) w s =
      resume I rest (onNode I n₂ u₂ (onNode I n₁ u₁ (w, s))) := by
  have h₂' : resolve I.root ((some p₁).getD cur) u₂.hdr.path = some (n₂, q₂) := hrel ▸ h₂
  rw [run_render I _ cur rest w s (List.cons_ne_nil _ _) hw
    (by simp only [units, List.map_cons, List.map_nil, dropSafe, h₁, h₂'])]
  simp only [units, List.map_cons, List.map_nil, specExec, h₁, h₂', onNode, resume]

/-- … and if `u₂` is not a child of that parent: one `UndefinedHeader`, `u₂` is not
executed — there is no second look-up at the root.  (`u₂` without newline in its
parameters.) -/
theorem path_rule_relative_undefined {σ : Type} (I : Iface σ) (cur : Node) (u₁ u₂ : MsgUnit)
    (ℓ₁ ℓ₂ : Lex) (rest : Bytes) (w : Writer) (s : σ) (hw : wfMsg [(u₁, ℓ₁), (u₂, ℓ₂)] = true)
    (n₁ p₁ : Node) (h₁ : resolve I.root cur u₁.hdr.path = some (n₁, some p₁))
    (ms : List Bytes) (hrel : u₂.hdr.path = .compound false ms)
    (h₂ : resolveFrom p₁ ms = none) (hfree : unitNlFree u₂ = true) :
    runFrom I cur (renderMsg [(u₁, ℓ₁), (u₂, ℓ₂)] ++ rest) w s =
      resume I rest ((onNode I n₁ u₁ (w, s)).1,
        I.onError (onNode I n₁ u₁ (w, s)).2 (.std .UndefinedHeader)) := by
  have h₂' : resolve I.root ((some p₁).getD cur) u₂.hdr.path = none := hrel ▸ h₂
  rw [run_render I _ cur rest w s (List.cons_ne_nil _ _) hw
    (by simp only [units, List.map_cons, List.map_nil, dropSafe, h₁, h₂', List.all_cons,
      List.all_nil, Bool.and_true, hfree])]
  simp only [units, List.map_cons, List.map_nil, specExec, h₁, h₂', onNode, resume]

/-- **`u₁ ; u₂` with `u₂` absolute**: `u₂` is resolved from the ROOT, wherever `u₁` led. -/
theorem path_rule_absolute {σ : Type} (I : Iface σ) (cur : Node) (u₁ u₂ : MsgUnit) (ℓ₁ ℓ₂ : Lex)
    (rest : Bytes) (w : Writer) (s : σ) (hw : wfMsg [(u₁, ℓ₁), (u₂, ℓ₂)] = true)
    (n₁ : Node) (p₁ : Option Node) (h₁ : resolve I.root cur u₁.hdr.path = some (n₁, p₁))
    (ms : List Bytes) (habs : u₂.hdr.path = .compound true ms)
    (n₂ : Node) (q₂ : Option Node) (h₂ : resolveFrom I.root ms = some (n₂, q₂)) :
    runFrom I cur (renderMsg [(u₁, ℓ₁), (u₂, ℓ₂)] ++ rest) w s =
      resume I rest (onNode I n₂ u₂ (onNode I n₁ u₁ (w, s))) := by
  have h₂' : resolve I.root (p₁.getD cur) u₂.hdr.path = some (n₂, q₂) := habs ▸ h₂
  rw [run_render I _ cur rest w s (List.cons_ne_nil _ _) hw
    (by simp only [units, List.map_cons, List.map_nil, dropSafe, h₁, h₂'])]
  simp only [units, List.map_cons, List.map_nil, specExec, h₁, h₂', onNode, resume]

/-- **`u₁ ; *c ; u₃`**: the common command is looked up at the root and LEAVES THE PATH:
the relative `u₃` is still resolved from the parent `p₁` of `u₁`'s node. -/
theorem path_rule_common {σ : Type} (I : Iface σ) (cur : Node) (u₁ u₂ u₃ : MsgUnit) (ℓ₁ ℓ₂ ℓ₃ : Lex)
    (rest : Bytes) (w : Writer) (s : σ) (hw : wfMsg [(u₁, ℓ₁), (u₂, ℓ₂), (u₃, ℓ₃)] = true)
    (n₁ p₁ : Node) (h₁ : resolve I.root cur u₁.hdr.path = some (n₁, some p₁))
    (name : Bytes) (hcom : u₂.hdr.path = .common name)
    (n₂ : Node) (h₂ : I.root.child (42 :: name) = some n₂)
    (ms : List Bytes) (hrel : u₃.hdr.path = .compound false ms)
    (n₃ : Node) (q₃ : Option Node) (h₃ : resolveFrom p₁ ms = some (n₃, q₃)) :
    runFrom I cur (renderMsg [(u₁, ℓ₁), (u₂, ℓ₂), (u₃, ℓ₃)] ++ rest) w s =
      resume I rest (onNode I n₃ u₃ (onNode I n₂ u₂ (onNode I n₁ u₁ (w, s)))) := by
  have h₂' : resolve I.root ((some p₁).getD cur) u₂.hdr.path = some (n₂, none) := by
    rw [hcom]
    simp only [resolve, h₂, Option.map_some]
  have h₃' : resolve I.root ((none : Option Node).getD ((some p₁).getD cur)) u₃.hdr.path
      = some (n₃, q₃) := hrel ▸ h₃
  rw [run_render I _ cur rest w s (List.cons_ne_nil _ _) hw
    (by simp only [units, List.map_cons, List.map_nil, dropSafe, h₁, h₂', h₃'])]
  simp only [units, List.map_cons, List.map_nil, specExec, h₁, h₂', h₃', onNode, resume]

/-- **Messages are independent.**  A message followed by ANY bytes `y` (for instance
further messages): `y` is run from the root, on the writer and user state the message
left — nothing else of the first message survives its terminator.  (For a message read
with any path: `Scpi.Msg.run_render`.) -/
theorem message_independent {σ : Type} (I : Iface σ) (m : List (MsgUnit × Lex)) (y : Bytes)
    (w : Writer) (s : σ) (hne : m ≠ []) (hw : wfMsg m = true)
    (hsafe : dropSafe I.root I.root (units m) = true) :
    run I (renderMsg m ++ y) w s =
      run I y (specExec I I.root (units m) w s).1 (specExec I I.root (units m) w s).2 :=
  run_render I m I.root y w s hne hw hsafe

/-- Two messages in one buffer: the second is executed from the root after the first. -/
theorem message_independent_spec {σ : Type} (I : Iface σ) (m₁ m₂ : List (MsgUnit × Lex))
    (w : Writer) (s : σ) (hne₁ : m₁ ≠ []) (hne₂ : m₂ ≠ []) (hw₁ : wfMsg m₁ = true)
    (hw₂ : wfMsg m₂ = true) (hs₁ : dropSafe I.root I.root (units m₁) = true)
    (hs₂ : dropSafe I.root I.root (units m₂) = true) :
    run I (renderMsg m₁ ++ renderMsg m₂) w s =
      finished I (specExec I I.root (units m₂) (specExec I I.root (units m₁) w s).1
        (specExec I I.root (units m₁) w s).2) := by
  rw [message_independent I m₁ _ w s hne₁ hw₁ hs₁, run_render_run I m₂ _ _ hne₂ hw₂ hs₂]
  rfl

/-- Non-vacuity on the demo interface of Scpi/Props/RunRender.lean (white space not
shown): `s:a;b⏎` (relative: `b` under `S`), `s:a;:x⏎` (absolute), `s:a;*c;b⏎` (common keeps
the path), `s:a;x;b⏎` (no second look-up at the root), and `s:a⏎b⏎` (the terminator resets
the path: `b` is undefined at the root). -/
example : (run Msg.Demo.I (renderMsg [(Msg.Demo.uA, Msg.Demo.tight), (Msg.Demo.uB, Msg.Demo.loose)])
      Msg.Demo.W []).s = [(1, []), (2, [])] ∧
    (run Msg.Demo.I (renderMsg [(Msg.Demo.uA, Msg.Demo.tight), (Msg.Demo.uX, Msg.Demo.loose)])
      Msg.Demo.W []).s = [(1, []), (0, [])] ∧
    (run Msg.Demo.I (renderMsg [(Msg.Demo.uA, Msg.Demo.tight), (Msg.Demo.uC, Msg.Demo.loose),
      (Msg.Demo.uB, Msg.Demo.tight)]) Msg.Demo.W []).s = [(1, []), (3, []), (2, [])] ∧
    (run Msg.Demo.I (renderMsg Msg.Demo.msg3) Msg.Demo.W []).s = [(1, []), (99, [])] ∧
    (run Msg.Demo.I (renderMsg [(Msg.Demo.uA, Msg.Demo.tight)] ++
      renderMsg [(Msg.Demo.uB, Msg.Demo.tight)]) Msg.Demo.W []).s = [(1, []), (99, [])] := by
  decide +kernel

/-- The hypotheses of `path_rule_common` on the demo tree. -/
example : ∃ n₁ n₂ n₃ q₃, resolve Msg.Demo.tree Msg.Demo.tree Msg.Demo.uA.hdr.path = some (n₁, some Msg.Demo.nS) ∧
    Msg.Demo.tree.child (42 :: [99]) = some n₂ ∧ resolveFrom Msg.Demo.nS [[98]] = some (n₃, q₃) ∧
    n₁.tag = 3 ∧ n₂.tag = 5 ∧ n₃.tag = 4 := ⟨_, _, _, _, rfl, rfl, rfl, rfl, rfl, rfl⟩

end C02

/-! ## C01 — the header selects the handler -/

namespace C01
open Msg

/-- **Dispatch of a compound header.**  A one-unit message without parameters, header
`[:]M₁:…:Mₖ[?]` in any white space: `run` walks the mnemonics from the root with
`childWalk` (the walk of `Scpi.C01.same_handler`) and executes the unit on the node
reached (`specUnit`: the query slot iff the header ends in `?`); if the walk fails it
reports exactly one `UndefinedHeader` and does nothing else. -/
theorem dispatch_header {σ : Type} (I : Iface σ) (u : MsgUnit) (ℓ : Lex) (w : Writer) (s : σ)
    (a : Bool) (ms : List Bytes) (hp : u.hdr.path = .compound a ms) (hl : u.lits = [])
    (hu : u.wf = true) (hℓ : ℓ.wf = true) :
    run I (renderMsg [(u, ℓ)]) w s =
      match childWalk I.root ms with
      | some node => finished I (specUnit I node u.hdr.query [] w s)
      | none => finished I (w, I.onError s (.std .UndefinedHeader)) := by
  have hms : ms ≠ [] := by
    rintro rfl
    simp only [MsgUnit.wf, HdrPath.wf, hp, List.isEmpty_nil, Bool.not_true, Bool.false_and,
      Bool.false_eq_true] at hu
  rw [dispatch_unit I u ℓ w s hu hℓ (fits_nlFree_of_no_lits ℓ hl).1
      fun _ => (fits_nlFree_of_no_lits ℓ hl).2, hp, ← C11.resolveFrom_node ms I.root hms]
  simp only [resolve, ite_self, onNode, hl, List.map_nil]
  cases resolveFrom I.root ms <;> rfl

/-- **Dispatch of a common header** `*NAME[?]`: the child `*NAME` of the root. -/
theorem dispatch_common {σ : Type} (I : Iface σ) (u : MsgUnit) (ℓ : Lex) (w : Writer) (s : σ)
    (n : Bytes) (hp : u.hdr.path = .common n) (hl : u.lits = [])
    (hu : u.wf = true) (hℓ : ℓ.wf = true) :
    run I (renderMsg [(u, ℓ)]) w s =
      match I.root.child (42 :: n) with
      | some node => finished I (specUnit I node u.hdr.query [] w s)
      | none => finished I (w, I.onError s (.std .UndefinedHeader)) := by
  rw [dispatch_unit I u ℓ w s hu hℓ (fits_nlFree_of_no_lits ℓ hl).1
      fun _ => (fits_nlFree_of_no_lits ℓ hl).2, hp]
  simp only [resolve, onNode, hl, List.map_nil]
  cases I.root.child (42 :: n) with
  | none => rfl
  | some node => rfl

/-- **The slot is invoked**: on a node whose slot (query slot for `?`, else command
slot) holds a handler without parameters, the unit IS that handler's call — on the
current user state, with no arguments — followed by its response; an error of the
handler (or of writing the response) is reported once. -/
theorem dispatch_handler {σ : Type} (I : Iface σ) (node : Node) (q : Bool) (w : Writer) (s : σ)
    (c : Cmd σ) (hs : slotCmd I node q = some c) (h0 : c.argTys = []) :
    specUnit I node q [] w s =
      match c.handler s [] with
      | (s', .error e) => (w, I.onError s' e)
      | (s', .ok resp) =>
        match reply q w resp with
        | (w', .error e) => (w', I.onError s' e)
        | (w', .ok ()) => (w', s') :=
  specUnit_called hs (h0 ▸ rfl) (h0 ▸ rfl)

/-- **An empty slot**: the node exists but has no handler of the kind asked for (or
its id is not in the table): exactly one `UndefinedHeader`, nothing written, no
handler applied to the user state. -/
theorem dispatch_no_slot {σ : Type} (I : Iface σ) (node : Node) (q : Bool) (args : List Value)
    (w : Writer) (s : σ) (hs : slotCmd I node q = none) :
    specUnit I node q args w s = (w, I.onError s (.std .UndefinedHeader)) :=
  specUnit_no_slot hs

/-- **Nothing is called, one error is reported — observably.**  With the tracing wrapper
(`Iface.traced`: every handler invocation and every `onError` appends an event to a
log): if the header does not resolve, or the node it reaches has an empty slot, the
log grows by exactly the one event `error UndefinedHeader` — no `call` event. -/
theorem dispatch_undefined_traced {σ : Type} (I : Iface σ) (u : MsgUnit) (ℓ : Lex) (w : Writer)
    (s : σ) (l : List Ev) (a : Bool) (ms : List Bytes) (hp : u.hdr.path = .compound a ms)
    (hl : u.lits = []) (hu : u.wf = true) (hℓ : ℓ.wf = true)
    (hnone : ∀ node, childWalk I.root ms = some node → slotCmd I node u.hdr.query = none) :
    run I.traced (renderMsg [(u, ℓ)]) w (s, l) =
      finished I.traced (w, (I.onError s (.std .UndefinedHeader),
        l ++ [Ev.error (.std .UndefinedHeader)])) := by
  rw [dispatch_header I.traced u ℓ w (s, l) a ms hp hl hu hℓ, show I.traced.root = I.root from rfl]
  cases hc : childWalk I.root ms with
  | none => rfl
  | some node =>
    simp only []
    rw [specUnit_no_slot (I := I.traced) (slotCmd_instrument_none I _ _ (hnone node hc))]
    rfl

/-- **Exactly the handler of the slot is called — observably.**  If the header reaches
`node` and its slot holds the handler `c` (number `id` of the table) without
parameters, the log grows by the event `call id []` followed by at most one `error`
event (the handler's own error, or a response that did not fit the writer). -/
theorem dispatch_called_traced {σ : Type} (I : Iface σ) (u : MsgUnit) (ℓ : Lex) (w : Writer)
    (s : σ) (l : List Ev) (a : Bool) (ms : List Bytes) (hp : u.hdr.path = .compound a ms)
    (hl : u.lits = []) (hu : u.wf = true) (hℓ : ℓ.wf = true) (node : Node)
    (hc : childWalk I.root ms = some node) (c : Cmd σ) (hs : slotCmd I node u.hdr.query = some c)
    (h0 : c.argTys = []) :
    ∃ id tail, (if u.hdr.query then node.query else node.command) = some id ∧ I.cmds[id]? = some c ∧
      (run I.traced (renderMsg [(u, ℓ)]) w (s, l)).s.2 = l ++ Ev.call id [] :: tail ∧
      (tail = [] ∨ ∃ e, tail = [Ev.error e]) := by
  obtain ⟨id, hid, hcmd⟩ := Option.bind_eq_some_iff.1 hs
  have hinv : M6.invokedOn I node u.hdr.query [] = some (id, []) := by
    simp only [M6.invokedOn, hid, hcmd, h0, Option.bind_some, List.length_nil, ne_eq,
      not_true_eq_false, if_false, convertAll]
  rw [dispatch_header I.traced u ℓ w (s, l) a ms hp hl hu hℓ, show I.traced.root = I.root from rfl,
    hc]
  simp only [Iface.traced, M6.specUnit_instrument, hinv, finished, M6.reportLog, callLog]
  cases (M6.verdictOn I node u.hdr.query [] w s).error with
  | none => exact ⟨id, [], hid, hcmd, rfl, Or.inl rfl⟩
  | some e => exact ⟨id, [Ev.error e], hid, hcmd, rfl, Or.inr ⟨e, rfl⟩⟩

/-- Non-vacuity on the demo interface (white space not shown): `x⏎` calls handler 0,
`x?⏎` handler 4 (and answers `7⏎`), `:s⏎` reaches a node with an empty slot, `y⏎` reaches
nothing. -/
example :
    (run Msg.Demo.I.traced (renderMsg [(Msg.Demo.unit (.compound false [[120]]), Msg.Demo.loose)])
      Msg.Demo.W ([], [])).s.2 = [Ev.call 0 []] ∧
    (run Msg.Demo.I.traced (renderMsg [(Msg.Demo.uQ, Msg.Demo.loose)]) Msg.Demo.W ([], [])).s.2
      = [Ev.call 4 []] ∧
    (run Msg.Demo.I (renderMsg [(Msg.Demo.uQ, Msg.Demo.loose)]) Msg.Demo.W []).w.buf = [55, 10] ∧
    (run Msg.Demo.I.traced (renderMsg [(Msg.Demo.unit (.compound true [[115]]), Msg.Demo.loose)])
      Msg.Demo.W ([], [])).s.2 = [Ev.error (.std .UndefinedHeader)] ∧
    (run Msg.Demo.I.traced (renderMsg [(Msg.Demo.unit (.compound false [[121]]), Msg.Demo.loose)])
      Msg.Demo.W ([], [])).s.2 = [Ev.error (.std .UndefinedHeader)] := by decide +kernel

example : childWalk Msg.Demo.I.root [[115]] = some Msg.Demo.nS ∧
    slotCmd Msg.Demo.I Msg.Demo.nS false = none ∧ childWalk Msg.Demo.I.root [[121]] = none :=
  ⟨rfl, rfl, rfl⟩

end C01

/-! ## C03 — the handler receives the converted parameters, positionally -/

namespace C03
open Msg

/-- **The parameters are delivered.**  A unit (anywhere in a message: any current
path, ended by `;` or the terminator, followed by anything) whose header resolves to
`node`, whose slot holds `c`, with as many literals as `c` has parameter types, all of
which convert: the handler is called on the current user state with EXACTLY
`tvs = convertAll c.argTys (u.lits.map Lit.value)` — the text of each literal as
written (`Lit.value`), converted to the declared type, in the order written. -/
theorem args_delivered {σ : Type} (I : Iface σ) (cur : Node) (u : MsgUnit) (ℓ : Lex) (t : Term)
    (rest : Bytes) (w : Writer) (s : σ) (hu : u.wf = true) (hℓ : ℓ.wf = true)
    (hfit : ℓ.fits u = true) (node : Node) (parent : Option Node)
    (hr : resolve I.root cur u.hdr.path = some (node, parent)) (c : Cmd σ)
    (hs : slotCmd I node u.hdr.query = some c) (hl : u.lits.length = c.argTys.length)
    (tvs : List TVal) (hc : convertAll c.argTys (u.lits.map Lit.value) = .ok tvs) :
    runFrom I cur (render u ℓ t ++ rest) w s =
      match c.handler s tvs with
      | (s', .error e) => runFrom I (pathAfter I.root cur parent t) rest w (I.onError s' e)
      | (s', .ok resp) =>
        match reply u.hdr.query w resp with
        | (w', .error e) => runFrom I (pathAfter I.root cur parent t) rest w' (I.onError s' e)
        | (w', .ok ()) => runFrom I (pathAfter I.root cur parent t) rest w' s' := by
  rw [runFrom_render_resolved I cur u ℓ t rest w s hu hℓ hfit node parent hr,
    specUnit_called hs ((List.length_map _).trans hl) hc]
  rcases c.handler s tvs with ⟨s', (e | resp)⟩
  · rfl
  · dsimp only
    rcases reply u.hdr.query w resp with ⟨w', (e | ⟨⟨⟩⟩)⟩ <;> rfl

/-- **Positionally**: `convertAll` succeeds with `tvs` iff `tvs` has one entry per
declared type and entry `i` is the conversion of literal `i` to type `i`. -/
theorem args_positional (tys : List Ty) (lits : List Lit) (tvs : List TVal)
    (hl : lits.length = tys.length) :
    convertAll tys (lits.map Lit.value) = .ok tvs ↔
      ∃ (_ : tvs.length = tys.length), ∀ (i : Nat) (hi : i < tys.length),
        convert tys[i] (lits[i]'(by omega)).value = .ok (tvs[i]'(by omega)) := by
  rw [convertAll_ok_iff tys _ tvs ((List.length_map _).trans hl)]
  simp only [List.getElem_map]

/-- A parameter that does not convert: the handler is NOT called (user state and
writer untouched); the error of the first such parameter is reported once; the run
goes on behind the unit. -/
theorem args_rejected {σ : Type} (I : Iface σ) (cur : Node) (u : MsgUnit) (ℓ : Lex) (t : Term)
    (rest : Bytes) (w : Writer) (s : σ) (hu : u.wf = true) (hℓ : ℓ.wf = true)
    (hfit : ℓ.fits u = true) (node : Node) (parent : Option Node)
    (hr : resolve I.root cur u.hdr.path = some (node, parent)) (c : Cmd σ)
    (hs : slotCmd I node u.hdr.query = some c) (hl : u.lits.length = c.argTys.length)
    (e : Err) (hc : convertAll c.argTys (u.lits.map Lit.value) = .error e) :
    runFrom I cur (render u ℓ t ++ rest) w s =
      runFrom I (pathAfter I.root cur parent t) rest w (I.onError s e) := by
  rw [runFrom_render_resolved I cur u ℓ t rest w s hu hℓ hfit node parent hr,
    specUnit_conversion hs ((List.length_map _).trans hl) hc]

/-- A wrong number of parameters: not called, `UnexpectedNumberOfParameters` once. -/
theorem args_miscounted {σ : Type} (I : Iface σ) (cur : Node) (u : MsgUnit) (ℓ : Lex) (t : Term)
    (rest : Bytes) (w : Writer) (s : σ) (hu : u.wf = true) (hℓ : ℓ.wf = true)
    (hfit : ℓ.fits u = true) (node : Node) (parent : Option Node)
    (hr : resolve I.root cur u.hdr.path = some (node, parent)) (c : Cmd σ)
    (hs : slotCmd I node u.hdr.query = some c) (hl : u.lits.length ≠ c.argTys.length) :
    runFrom I cur (render u ℓ t ++ rest) w s =
      runFrom I (pathAfter I.root cur parent t) rest w
        (I.onError s (.std .UnexpectedNumberOfParameters)) := by
  rw [runFrom_render_resolved I cur u ℓ t rest w s hu hℓ hfit node parent hr,
    specUnit_arity hs (by rwa [List.length_map])]

/-- Non-vacuity: the hypotheses of `args_delivered` for the unit `s:p "a;b,⏎",#14;,⏎⏎`
of the demo interface, and the parameters its handler receives. -/
example : ∃ node parent c, resolve Msg.Demo.I.root Msg.Demo.I.root Msg.Demo.uP.hdr.path = some (node, parent) ∧
    slotCmd Msg.Demo.I node Msg.Demo.uP.hdr.query = some c ∧
    Msg.Demo.uP.lits.length = c.argTys.length ∧
    convertAll c.argTys (Msg.Demo.uP.lits.map Lit.value) =
      .ok [.str [97, 59, 98, 44, 10], .bytes [59, 44, 10, 10]] :=
  ⟨_, _, _, rfl, rfl, rfl, rfl⟩

end C03

/-! ## C08 — payloads never end a unit -/

namespace C08
open Msg

/-- A string or block literal. -/
def isPayload : Lit → Bool
  | .str _ _ => true
  | .block _ _ => true
  | _ => false

/-- The parameter type that accepts it … -/
def payloadTy : Lit → Ty
  | .block _ _ => .bytes
  | _ => .str

/-- … and the value a handler of that type receives: the payload, verbatim. -/
def payloadVal : Lit → TVal
  | .str _ p => .str p
  | .block _ p => .bytes p
  | _ => .str []

/-- **Every unit runs.**  A message whose headers resolve, with ANY well-formed
literals — in particular strings and blocks whose payloads contain `;`, `,`, `:`, `#`,
quotes of the other kind or newlines: no payload byte ends a unit or the message.  The
interpreter executes EVERY unit, in order, each on the node its header addresses
(`nodesOf`) and with the arguments `u.lits.map Lit.value` (`onNode`) — for a string or
a block that is the payload verbatim (`payload_delivered`) — and goes on behind the
message terminator. -/
theorem payload_units_run {σ : Type} (I : Iface σ) (m : List (MsgUnit × Lex)) (cur : Node)
    (rest : Bytes) (w : Writer) (s : σ) (hne : m ≠ []) (hwf : wfMsg m = true)
    (hres : allResolve I.root cur (units m) = true) :
    (nodesOf I.root cur (units m)).length = m.length ∧
    runFrom I cur (renderMsg m ++ rest) w s =
      resume I rest
        (((nodesOf I.root cur (units m)).zip (units m)).foldl (fun ws p => onNode I p.1 p.2 ws) (w, s)) := by
  obtain ⟨h1, h2⟩ := specExec_eq_foldl I (units m) cur w s hres
  refine ⟨h1.trans (List.length_map _), ?_⟩
  rw [run_render_resolving I m cur rest w s hne hwf hres, h2]
  rfl

/-- **Payloads arrive verbatim.**  String and block literals convert to the types
`str` / `bytes`, and the handler receives exactly the payload bytes. -/
theorem payload_delivered : ∀ (lits : List Lit), lits.all isPayload = true →
    convertAll (lits.map payloadTy) (lits.map Lit.value) = .ok (lits.map payloadVal) := by
  intro lits
  induction lits with
  | nil => exact fun _ => rfl
  | cons l ls ih =>
    intro h
    simp only [List.all_cons, Bool.and_eq_true] at h
    have ih := ih h.2
    cases l with
    | str q p =>
      simp only [List.map_cons, convertAll, payloadTy, Lit.value, convert, ih, payloadVal]
    | block nd p =>
      simp only [List.map_cons, convertAll, payloadTy, Lit.value, convert, ih, payloadVal]
    | _ => cases h.1

/-- Non-vacuity: `x?;s:p "a;b,⏎",#14;,⏎⏎ ; b ⏎` of the demo interface — three units,
three nodes, every handler ran, the payloads are those written. -/
example : wfMsg Msg.Demo.msg4 = true ∧
    allResolve Msg.Demo.I.root Msg.Demo.I.root (units Msg.Demo.msg4) = true ∧
    (nodesOf Msg.Demo.I.root Msg.Demo.I.root (units Msg.Demo.msg4)).map Node.tag = [1, 6, 4] ∧
    Msg.Demo.uP.lits.all isPayload = true ∧
    (run Msg.Demo.I (renderMsg Msg.Demo.msg4) Msg.Demo.W []).s =
      [(4, []), (5, Msg.Demo.uP.lits.map payloadVal), (2, [])] := by decide +kernel

end C08

end Scpi
