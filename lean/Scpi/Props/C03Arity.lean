/-
C03 — more parameters than the supported maximum (`MAX_ARGS` = 10).

`Scpi.Msg.run_render` and `Scpi.C11.parse_render` cover units with at most ten
parameters (`MsgUnit.wf`).  This file covers the rest: a unit whose header is
well-formed, whose literals are ALL well-formed, in any white space, but with MORE than
ten literals.

* `too_many_args_soft`: `parse` answers with the soft error `InvalidCharacter` when the
  header resolves, and with the fatal `UndefinedHeader` when it does not — never with a
  call.  Mechanism (`parseAfterHeader_overflow`): `arguments` refuses the eleventh
  `push` with `UnexpectedNumberOfParameters` (`arguments_overflow`), which is a soft
  error; `parse` then puts the input back to the first parameter (parser.rs:423-433)
  and looks for the unit terminator there; the first byte of a literal is not one.
  So the error REPORTED is `InvalidCharacter` (-101), not
  `UnexpectedNumberOfParameters` (-115).
* `too_many_args_runFrom`, `too_many_args_run`: consequently the interpreter reports
  exactly that one error, invokes no handler, writes nothing, drops the rest of the
  message and goes on behind the next newline from the root.
* `too_many_args_traced`: the same observably — the log of handler invocations and
  errors grows by the single event `error InvalidCharacter` (or `UndefinedHeader`).

All statements hold for every interface (every tree, all handlers — also a handler
DECLARED with eleven parameters is not invoked, see the examples), every writer and
user state.
-/
import Scpi.Proofs.RenderParse
import Scpi.Proofs.MsgNewline
import Scpi.Props.C02
import Scpi.Props.RunRender

namespace Scpi
namespace C03
open Msg

/-- The error a unit with too many parameters costs: `InvalidCharacter` if its header
resolves, `UndefinedHeader` if not. -/
def overflowErr (root cur : Node) (u : MsgUnit) : Err :=
  match resolve root cur u.hdr.path with
  | some _ => .std .InvalidCharacter
  | none => .std .UndefinedHeader

/-- **More than `maxArgs` parameters: `parse` delivers no call.**  For every tree, every
current path, every unit with a well-formed header and MORE than ten well-formed
literals, every choice of white space (`ℓ.wf`, and some white space after the header:
`ℓ.fits u`), either terminator and anything behind it: a soft `InvalidCharacter` when
the header resolves, the fatal `UndefinedHeader` when it does not. -/
theorem too_many_args_soft (root cur : Node) (u : MsgUnit) (ℓ : Lex) (t : Term) (rest : Bytes)
    (hp : u.hdr.path.wf = true) (hl : u.lits.all Lit.wf = true) (hlen : maxArgs < u.lits.length)
    (hℓ : ℓ.wf = true) (hfit : ℓ.fits u = true) :
    parse root cur (render u ℓ t ++ rest) =
      match resolve root cur u.hdr.path with
      | some _ => .soft (some (.std .InvalidCharacter))
      | none => .fatal (.std .UndefinedHeader) := by
  rw [parse_render_header root cur t rest hp hl hℓ hfit]
  cases resolve root cur u.hdr.path with
  | none => rfl
  | some nh =>
    exact parseAfterHeader_overflow nh u.hdr.query t rest hl hlen hℓ hfit

/-- What `arguments` itself says about the parameter list (before `parse` puts the input
back): the soft error `UnexpectedNumberOfParameters`, with the first ten values in the
vector.  What follows the last literal is white space `w` and the terminator. -/
theorem too_many_args_arguments (l : Lit) (ls : List Lit) (cs : List (Bytes × Bytes)) (w : Bytes)
    (t : Term) (rest : Bytes) (hwf : (l :: ls).all Lit.wf = true)
    (hcs : cs.all (fun p => allWs p.1 && allWs p.2) = true) (hw : allWs w = true)
    (hlen : maxArgs < (l :: ls).length) :
    arguments (renderArgs (l :: ls) cs ++ (w ++ t.byte :: rest)) =
      (.soft (some (.std .UnexpectedNumberOfParameters)), ((l :: ls).take maxArgs).map Lit.value) :=
  arguments_overflow hwf hcs hlen (delimHead_ws_append hw t.byte_delim)

/-- **One error, no handler, nothing written** (general form).  The unit anywhere in a
message (any current path `cur`, ended by `;` or by the terminator, followed by
anything), no newline inside its string and block payloads: `run_from` applies the
error handler once (`overflowErr`), leaves the writer untouched — no handler ran, and a
handler can only be reached through a call delivered by `parse` — and skips to behind
the next newline: the rest of the MESSAGE is dropped, as after any syntax error. -/
theorem too_many_args_runFrom {σ : Type} (I : Iface σ) (cur : Node) (u : MsgUnit) (ℓ : Lex)
    (t : Term) (rest : Bytes) (w : Writer) (s : σ)
    (hp : u.hdr.path.wf = true) (hl : u.lits.all Lit.wf = true) (hlen : maxArgs < u.lits.length)
    (hℓ : ℓ.wf = true) (hfit : ℓ.fits u = true) (hfree : unitNlFree u = true) :
    runFrom I cur (render u ℓ t ++ rest) w s =
      match afterNewline (t.byte :: rest) with
      | some r => runFrom I I.root r w (I.onError s (overflowErr I.root cur u))
      | none => { rest := render u ℓ t ++ rest, header := cur, w := w,
                  s := I.onError s (overflowErr I.root cur u) } := by
  have hf : ParseFault I ⟨cur, render u ℓ t ++ rest, w, s⟩ (overflowErr I.root cur u) := by
    have hparse := too_many_args_soft I.root cur u ℓ t rest hp hl hlen hℓ hfit
    unfold overflowErr
    revert hparse
    cases resolve I.root cur u.hdr.path with
    | none => exact .inr
    | some nh => exact fun h => .inl ⟨_, h, rfl⟩
  rw [runFrom_fault I cur _ w s _ (render_append_ne_nil u ℓ t rest) hf,
    afterNewline_render (unitBody_noNl hp hl hℓ hfree) t rest]
  rfl

/-- **The newline-terminated unit**: one error, then on behind the terminator from the
root, with the writer as it was. -/
theorem too_many_args_run_from {σ : Type} (I : Iface σ) (cur : Node) (u : MsgUnit) (ℓ : Lex)
    (rest : Bytes) (w : Writer) (s : σ)
    (hp : u.hdr.path.wf = true) (hl : u.lits.all Lit.wf = true) (hlen : maxArgs < u.lits.length)
    (hℓ : ℓ.wf = true) (hfit : ℓ.fits u = true) (hfree : unitNlFree u = true) :
    runFrom I cur (render u ℓ .nl ++ rest) w s =
      runFrom I I.root rest w (I.onError s (overflowErr I.root cur u)) := by
  rw [too_many_args_runFrom I cur u ℓ .nl rest w s hp hl hlen hℓ hfit hfree]
  simp only [Term.byte, afterNewline_nl]

/-- **A message consisting of such a unit**: `run` consumes it, ends at the root without
crash; the user state is `onError s e` for the ONE error `e = overflowErr …` — no
handler was applied to it — and the writer is untouched. -/
theorem too_many_args_run {σ : Type} (I : Iface σ) (u : MsgUnit) (ℓ : Lex) (w : Writer) (s : σ)
    (hp : u.hdr.path.wf = true) (hl : u.lits.all Lit.wf = true) (hlen : maxArgs < u.lits.length)
    (hℓ : ℓ.wf = true) (hfit : ℓ.fits u = true) (hfree : unitNlFree u = true) :
    run I (render u ℓ .nl) w s = finished I (w, I.onError s (overflowErr I.root I.root u)) := by
  have := too_many_args_run_from I I.root u ℓ [] w s hp hl hlen hℓ hfit hfree
  rw [List.append_nil, runFrom_nil] at this
  exact this

/-- **Observably**: with the tracing wrapper (every handler invocation appends a `call`
event, every `onError` an `error` event) the log grows by exactly one `error` event and
no `call` event. -/
theorem too_many_args_traced {σ : Type} (I : Iface σ) (u : MsgUnit) (ℓ : Lex) (w : Writer) (s : σ)
    (l : List Ev)
    (hp : u.hdr.path.wf = true) (hl : u.lits.all Lit.wf = true) (hlen : maxArgs < u.lits.length)
    (hℓ : ℓ.wf = true) (hfit : ℓ.fits u = true) (hfree : unitNlFree u = true) :
    run I.traced (render u ℓ .nl) w (s, l) =
      finished I.traced (w, (I.onError s (overflowErr I.root I.root u),
        l ++ [Ev.error (overflowErr I.root I.root u)])) :=
  too_many_args_run I.traced u ℓ w (s, l) hp hl hlen hℓ hfit hfree

/-! ### Non-vacuity

A tree with one command `T` whose handler is DECLARED with eleven `u8` parameters; the
user state counts handler invocations and logs errors. -/

namespace ArityDemo

def I : Iface (Nat × List Err) where
  root := .mk 0 [([84], .mk 1 [] (some 0) none)] none none
  cmds := [{ argTys := List.replicate 11 .u8, handler := fun s _ => ((s.1 + 1, s.2), .ok .unit) }]
  onError := fun s e => (s.1, s.2 ++ [e])

/-- The decimal literal `k` (one digit). -/
def d (k : Nat) : Lit := .dec { sign := none, int := [48 + k], dot := false, frac := [], exp := none }

/-- `T` (or the undefined `U`) with `n` one-digit parameters `0,1,2,…`. -/
def unit (name n : Nat) : MsgUnit :=
  { hdr := { path := .compound false [[name]], query := false }, lits := (List.range n).map fun k => d (k % 10) }

def ℓ : Lex := { lead := [], sep := [32], commas := [([], [32])], trail := [13] }

example : render (unit 84 11) ℓ .nl =
    [84, 32, 48, 44, 32, 49, 44, 50, 44, 51, 44, 52, 44, 53, 44, 54, 44, 55, 44, 56, 44, 57, 44, 48, 13, 10] := by
  decide +kernel

/-- The hypotheses hold for 11 and for 12 literals … -/
example : (unit 84 11).hdr.path.wf = true ∧ (unit 84 11).lits.all Lit.wf = true ∧
    maxArgs < (unit 84 11).lits.length ∧ maxArgs < (unit 84 12).lits.length ∧
    (unit 84 12).lits.all Lit.wf = true ∧ ℓ.wf = true ∧ ℓ.fits (unit 84 11) = true ∧
    unitNlFree (unit 84 11) = true ∧ unitNlFree (unit 84 12) = true := by decide +kernel

/-- … `parse` (computed, independently of the theorem) … -/
example : (match parse I.root I.root (render (unit 84 11) ℓ .nl) with
      | .soft (some (.std .InvalidCharacter)) => true | _ => false) = true ∧
    (match parse I.root I.root (render (unit 84 12) ℓ .semi ++ [88, 10]) with
      | .soft (some (.std .InvalidCharacter)) => true | _ => false) = true ∧
    (match parse I.root I.root (render (unit 85 11) ℓ .nl) with
      | .fatal (.std .UndefinedHeader) => true | _ => false) = true := by decide +kernel

/-- … and `run`: one error, the handler — declared with eleven parameters — not invoked,
nothing written; with ten parameters `parse` delivers the call and the arity check (ten
against the eleven declared) reports `UnexpectedNumberOfParameters`, again without
invoking the handler. -/
example : (run I (render (unit 84 11) ℓ .nl) { cap := none } (0, [])).s = (0, [.std .InvalidCharacter]) ∧
    (run I (render (unit 84 12) ℓ .nl) { cap := none } (0, [])).s = (0, [.std .InvalidCharacter]) ∧
    (run I (render (unit 85 11) ℓ .nl) { cap := none } (0, [])).s = (0, [.std .UndefinedHeader]) ∧
    (run I (render (unit 84 11) ℓ .nl) { cap := none } (0, [])).w.buf = [] ∧
    (run I (render (unit 84 10) ℓ .nl) { cap := none } (0, [])).s =
      (0, [.std .UnexpectedNumberOfParameters]) := by decide +kernel

/-- The theorem, instantiated. -/
example : run I (render (unit 84 11) ℓ .nl) { cap := none } (0, []) =
    finished I ({ cap := none }, (0, [.std .InvalidCharacter])) :=
  too_many_args_run I (unit 84 11) ℓ _ _ (by decide +kernel) (by decide +kernel)
    (by decide +kernel) (by decide +kernel) (by decide +kernel) (by decide +kernel)

/-- The rest of the message is dropped: `T 0,…,0 ; T⏎ T⏎` — one error for the first
message (not two), one for the second (`T` without parameters: arity). -/
example : (run I (render (unit 84 11) ℓ .semi ++ [84, 10, 84, 10]) { cap := none } (0, [])).s =
    (0, [.std .InvalidCharacter, .std .UnexpectedNumberOfParameters]) := by decide +kernel

/-- The payload condition of `too_many_args_runFrom` is needed: with a newline inside the
eleventh (string) parameter the skipping ends there and what follows the embedded newline
is read as a new message — a second error. -/
example :
    let u : MsgUnit := { unit 84 10 with lits := (unit 84 10).lits ++ [.str 34 [10, 33]] }
    u.lits.all Lit.wf = true ∧ maxArgs < u.lits.length ∧
    (run I (render u ℓ .nl) { cap := none } (0, [])).s =
      (0, [.std .InvalidCharacter, .std .UndefinedHeader]) := by decide +kernel

end ArityDemo

end C03
end Scpi
