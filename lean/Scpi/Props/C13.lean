/-
C13 (capacity part) — "Parsing, dispatching and formatting responses into a
fixed-capacity buffer perform no heap allocation for any input, …"

A purely functional model has no heap, so allocation itself is not observable in it
(the harness measures it on the real code with a counting allocator).  What the model
CAN carry is the reason why no allocation is ever needed: every container the library
uses has a fixed capacity, and no input makes any of them exceed it — an overflow
surfaces as an error value, never as growth.  The four containers:

1. the argument vector `heapless::Vec<Value, MAX_ARGS>` of `parse`: `args_le_max`
   (and `arguments_le_max` for the vector `arguments` leaves behind when it fails);
2. the response buffer `heapless::Vec<u8, N>`: `writer_within_cap` for one call, a call
   sequence and `write_response`; `execute_within_cap`, `runFrom_within_cap` for the
   dispatcher; `process_response_within_cap` for the buffer `process` creates;
3. the error queue `heapless::Deque<Error, N>`: `queue_length_le_cap` (= `C09.length_le_cap`);
4. the command buffer `[u8; N]` of `process` and its two offsets: `process_offsets_inv`
   (= `C05.process_offsets_inv`).
-/
import Scpi.Proofs.RunSteps
import Scpi.Proofs.HeaderWalk
import Scpi.Props.C09
import Scpi.Props.C05Process
import Scpi.Proofs.RunStepsDemo

namespace Scpi
namespace C13

/-! ## 1. The argument vector -/

/-- **The argument vector never exceeds `MAX_ARGS = 10`.**  Whatever the tree, the
header path and the input: a unit that `parse` accepts carries at most `maxArgs`
arguments.  (In `argsLoop` the push is refused — `UnexpectedNumberOfParameters` — when
the vector already holds `maxArgs` entries.) -/
theorem args_le_max (root h : Node) (x r : Bytes) (call : CommandCall)
    (hp : parse root h x = .ok r (some call)) : call.args.length ≤ maxArgs := by
  obtain ⟨_, ⟨i5, b, ha⟩, _⟩ := parse_call root h x r call hp
  rw [ha]
  split
  · exact arguments_length i5
  · exact Nat.zero_le _

/-- The same for the vector that `arguments` returns — ALSO when it fails: the Rust
code fills the caller's vector in place and leaves the partial vector behind on a
failure (`parseArgs` then hands it on after a soft failure), and that partial vector
is within the capacity too. -/
theorem arguments_le_max (x : Bytes) : (arguments x).2.length ≤ maxArgs :=
  arguments_length x

theorem maxArgs_eq : maxArgs = 10 := rfl

/-- Non-vacuity: ten arguments `1,1,…,1` are accepted and fill the vector … -/
example : (arguments [49, 44, 49, 44, 49, 44, 49, 44, 49, 44, 49, 44, 49, 44, 49, 44, 49, 44,
    49]).2.length = 10 := by decide +kernel
/-- … the eleventh is refused, the vector stays at ten. -/
example : (arguments [49, 44, 49, 44, 49, 44, 49, 44, 49, 44, 49, 44, 49, 44, 49, 44, 49, 44,
    49, 44, 49]).2.length = 10 ∧
    (arguments [49, 44, 49, 44, 49, 44, 49, 44, 49, 44, 49, 44, 49, 44, 49, 44, 49, 44,
    49, 44, 49]).1.isOk = false := by decide +kernel
/-- `args_le_max` applies to a real unit: `F 1⏎` of the demo interface has one argument. -/
example : ∃ r call, parse Demo.tree Demo.tree [70, 32, 49, 10] = .ok r (some call) ∧
    call.args = [.dec [49]] := ⟨_, _, rfl, rfl⟩

/-! ## 2. The response buffer -/

/-- **A bounded writer never grows beyond its capacity.**  For a writer that is
`heapless::Vec<u8, c>` (`cap = some c`) holding at most `c` bytes: after any single
call of the `Write` trait, any sequence of calls, and any `write_response`, it is
still a writer of capacity `c` holding at most `c` bytes — whatever the result of the
call (an overflow is reported as `TooMuchData` / `SystemError`). -/
theorem writer_within_cap (c : Nat) (w : Writer) (hc : w.cap = some c) (hl : w.buf.length ≤ c) :
    (∀ x : WCall, (w.call x).1.cap = some c ∧ (w.call x).1.buf.length ≤ c) ∧
    (∀ xs : List WCall, (w.calls xs).1.cap = some c ∧ (w.calls xs).1.buf.length ≤ c) ∧
    (∀ r : Resp, (w.writeResp r).1.cap = some c ∧ (w.writeResp r).1.buf.length ≤ c) :=
  ⟨fun x => (Writer.kept_within c).call w x ⟨hc, hl⟩,
   fun xs => (Writer.kept_within c).calls xs w ⟨hc, hl⟩,
   fun r => (Writer.kept_within c).calls r.calls w ⟨hc, hl⟩⟩

/-- … hence executing a unit (conversion, handler, response, newline, flush) keeps the
response buffer within its capacity, for every interface and every handler … -/
theorem execute_within_cap {σ : Type} (I : Iface σ) (call : CommandCall) (c : Nat) (w : Writer)
    (s : σ) (hc : w.cap = some c) (hl : w.buf.length ≤ c) :
    (execute I call w s).2.1.cap = some c ∧ (execute I call w s).2.1.buf.length ≤ c :=
  (Writer.kept_within c).execute I call w s ⟨hc, hl⟩

/-- … and so does a whole `run_from`, for every input. -/
theorem runFrom_within_cap {σ : Type} (I : Iface σ) (h : Node) (x : Bytes) (c : Nat) (w : Writer)
    (s : σ) (hc : w.cap = some c) (hl : w.buf.length ≤ c) :
    (runFrom I h x w s).w.cap = some c ∧ (runFrom I h x w s).w.buf.length ≤ c :=
  (Writer.kept_within c).runFrom I h x w s ⟨hc, hl⟩

/-- A `run_from` that starts with the response buffer empty (capacity `n`), as every
`run_from` of `process::<N, _>` does, never holds more than `n` bytes in it, whatever
the input. -/
theorem process_response_within_cap {σ : Type} (I : Iface σ) (h : Node) (x : Bytes) (n : Nat)
    (s : σ) : (runFrom I h x { cap := some n } s).w.buf.length ≤ n :=
  (runFrom_within_cap I h x n { cap := some n } s rfl (Nat.zero_le _)).2

/-- Non-vacuity: the query `X?⏎` answers `7⏎`; in a 1-byte buffer only `7` is kept
(and an error reported, C06), in a 2-byte buffer both bytes. -/
example : (run Demo.I [88, 63, 10] { cap := some 1 } []).w.buf = [55] ∧
    (run Demo.I [88, 63, 10] { cap := some 2 } []).w.buf = [55, 10] := by decide +kernel

/-! ## 3. The error queue, 4. the command buffer -/

/-- The error queue never holds more than its capacity (`Scpi.C09.length_le_cap`). -/
theorem queue_length_le_cap (ops : List C09.QOp) (q : EQueue) (h : q.items.length ≤ q.cap) :
    (C09.runOps q ops).1.items.length ≤ q.cap :=
  C09.length_le_cap ops q h

/-- The command buffer of `process` keeps its length `n` and both offsets stay inside
it, at every iteration of either loop (`Scpi.C05.process_offsets_inv`; `PInv n st` is
`st.buf.length = n ∧ st.procOff ≤ st.readOff ∧ st.readOff < n`). -/
theorem process_offsets_inv {σ : Type} (I : Iface σ) (n : Nat) (hn : 1 ≤ n) (sc : Script) (s : σ) :
    Proc.PInv n (Proc.initState I n sc s) ∧
    (∀ fault st st', Proc.PInv n st → Proc.outerStep I n fault st = .inl st' → Proc.PInv n st') ∧
    (∀ fault st, Proc.OuterReach I n fault (Proc.initState I n sc s) st → Proc.PInv n st) ∧
    (∀ st : PState σ, Proc.PInv n st →
        Proc.IInv n (st.readOff + Proc.readCount n st) (Proc.afterRead n st)) ∧
    (∀ fault readEnd fuel st, Proc.IInv n readEnd st →
        Proc.IInv n readEnd (procInner I n fault fuel readEnd st).1) ∧
    (∀ st : PState σ, Proc.PInv n st → 1 ≤ n - st.readOff) :=
  C05.process_offsets_inv I n hn sc s

end C13
end Scpi
