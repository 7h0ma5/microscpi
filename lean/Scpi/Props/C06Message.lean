/-
C06 — a faulty unit costs exactly one error, and nothing else: WHOLE MESSAGES.

"A complete program message (its only newline is its terminator and it leaves no string
or block open) in which one unit is faulty - syntax error, undefined header, wrong
parameter count, unconvertible parameter, or an error returned by its handler - hands
exactly one error to the error handler (the handler's own error value, verbatim, in the
last case), executes the units before the faulty one normally, does not invoke the
faulty unit's handler unless the fault is the handler's own, and executes either all or
none of the units after it."

Messages are given as ASTs `m : List (MsgUnit × Lex)` (Scpi/Spec/MsgAst.lean) rendered by
`renderMsg`; by `Scpi.Msg.run_render` the byte-level interpreter on ANY such rendering
computes `specExec`.  (Syntax errors proper — bytes that are not the rendering of any
AST — are outside this file: for them `Scpi.C06.one_error_per_unit` (Scpi/Props/C06.lean)
says that the iteration reports exactly one error and the run resumes behind the next
newline.)

Vocabulary (Scpi/Proofs/UnitVerdict.lean, OneFault.lean; namespace `Scpi.M6`):

* `UnitVerdict` = `undefined` (the header does not resolve: the parse-level fault) |
  `noSlot` | `arity` | `conversion e` | `handlerError e` | `writeError e` | `ok`;
  `verdict I cur u w s` classifies the unit `u` read with the path `cur` on writer `w`
  and user state `s` (`verdict_undefined_iff`, `verdictOn_cases`: what each verdict
  means and what the unit then does).  `v.error` is the error handed to the error
  handler, `v.invokes` says whether the unit's handler runs, `v.execLevel` whether the
  fault is one of the five execution-level ones.
* `verdicts I cur us w s`: the verdicts of the units `specExec` reaches, in order, on
  the path / writer / state threaded exactly as `specExec` threads them; the list ends
  behind an `undefined` unit (the rest of the message is dropped, not classified).
* `OneFault I cur us w s k v`: verdict number `k` is `v ≠ ok`, every other verdict is
  `ok`.  `FaultAt I cur pre u suf w s v`: the same for the message `pre ++ u :: suf`,
  spelled out: `pre` is fine, `u` gets `v` on the state `pre` leaves, and unless
  `v = undefined` the units `suf` are fine on the state `pre ++ [u]` leaves
  (`oneFault_iff_faultAt`).
* `pathThrough root cur pre`: the path with which the unit behind `pre` is read.
* `Iface.logged` / `Iface.traced` (Scpi/Proofs/RunLog.lean): the error log and the
  log of events `Ev.call id tvs` / `Ev.error e`; `callEv (id, tvs) = Ev.call id tvs`.

FINDING (the third of Scpi/Props/C06.lean): the enumeration of the property lacks the sixth
way to fail, `writeError` (the handler succeeded, its response did not fit the writer);
the handler HAS run then, and the theorems below treat it like the handler's own error.
-/
import Scpi.Proofs.OneFault
import Scpi.Props.RunRenderCor
import Scpi.Props.C06
import Scpi.Proofs.RunStepsDemo

namespace Scpi
namespace C06
open Msg M6

/-! ## The classification -/

/-- `undefined` is the verdict of exactly the units whose header does not resolve. -/
theorem verdict_undefined_iff {σ : Type} (I : Iface σ) (cur : Node) (u : MsgUnit) (w : Writer)
    (s : σ) : verdict I cur u w s = .undefined ↔ resolve I.root cur u.hdr.path = none := by
  unfold verdict
  cases resolve I.root cur u.hdr.path with
  | none => exact iff_of_true rfl rfl
  | some np =>
    obtain ⟨node, parent⟩ := np
    simp only [reduceCtorEq, iff_false]
    exact (unitRun I node _ _ w s).ne_undefined

/-- A header that resolves to `node`: the verdict is `verdictOn` on that node. -/
theorem verdict_resolved {σ : Type} (I : Iface σ) (cur : Node) (u : MsgUnit) (w : Writer) (s : σ)
    (node : Node) (parent : Option Node) (hr : resolve I.root cur u.hdr.path = some (node, parent)) :
    verdict I cur u w s = verdictOn I node u.hdr.query (u.lits.map Lit.value) w s := by
  simp only [verdict, hr]

/-- **What each verdict means, and what the unit then does** (`specUnit`: the new
writer and user state).  The cases exclude each other and are exhaustive.

* `noSlot`: the node has no handler of the kind asked for — `UndefinedHeader`;
* `arity`: wrong number of parameters — `UnexpectedNumberOfParameters`;
* `conversion e`: `e` is the error of the first parameter that does not convert;
  — in these three cases writer and user state are untouched but for the ONE `onError`;
* `handlerError e`: the handler ran on the converted parameters and returned `e`, which
  is handed on verbatim, on the state the handler left; nothing is written;
* `writeError e`: the handler ran and succeeded; writing its response failed with `e`;
* `ok`: the handler ran, its response was written; NO `onError`. -/
theorem verdictOn_cases {σ : Type} (I : Iface σ) (node : Node) (q : Bool) (args : List Value)
    (w : Writer) (s : σ) :
    match verdictOn I node q args w s with
    | .undefined => False
    | .noSlot => slotCmd I node q = none ∧
        specUnit I node q args w s = (w, I.onError s (.std .UndefinedHeader))
    | .arity => ∃ c, slotCmd I node q = some c ∧ args.length ≠ c.argTys.length ∧
        specUnit I node q args w s = (w, I.onError s (.std .UnexpectedNumberOfParameters))
    | .conversion e => ∃ c, slotCmd I node q = some c ∧ args.length = c.argTys.length ∧
        convertAll c.argTys args = .error e ∧ specUnit I node q args w s = (w, I.onError s e)
    | .handlerError e => ∃ c tvs s', slotCmd I node q = some c ∧ args.length = c.argTys.length ∧
        convertAll c.argTys args = .ok tvs ∧ c.handler s tvs = (s', .error e) ∧
        specUnit I node q args w s = (w, I.onError s' e)
    | .writeError e => ∃ c tvs s' resp w', slotCmd I node q = some c ∧
        args.length = c.argTys.length ∧ convertAll c.argTys args = .ok tvs ∧
        c.handler s tvs = (s', .ok resp) ∧ reply q w resp = (w', .error e) ∧
        specUnit I node q args w s = (w', I.onError s' e)
    | .ok => ∃ c tvs s' resp w', slotCmd I node q = some c ∧
        args.length = c.argTys.length ∧ convertAll c.argTys args = .ok tvs ∧
        c.handler s tvs = (s', .ok resp) ∧ reply q w resp = (w', .ok ()) ∧
        specUnit I node q args w s = (w', s') := by
  have h := unitRun I node q args w s
  generalize verdictOn I node q args w s = v, invokedOn I node q args = inv,
    specUnit I node q args w s = out at h ⊢
  cases h with
  | noSlot h => exact ⟨h, rfl⟩
  | arity hid hc hl => exact ⟨_, slotCmd_eq_some hid hc, hl, rfl⟩
  | conversion hid hc hl ha => exact ⟨_, slotCmd_eq_some hid hc, hl, ha, rfl⟩
  | handlerError hid hc hl ha hh => exact ⟨_, _, _, slotCmd_eq_some hid hc, hl, ha, hh, rfl⟩
  | writeError hid hc hl ha hh hr =>
    exact ⟨_, _, _, _, _, slotCmd_eq_some hid hc, hl, ha, hh, hr, rfl⟩
  | ok hid hc hl ha hh hr => exact ⟨_, _, _, _, _, slotCmd_eq_some hid hc, hl, ha, hh, hr, rfl⟩

/-- The error of each verdict: `UndefinedHeader` for a header that does not resolve and
for an empty slot, `UnexpectedNumberOfParameters` for a wrong count, otherwise the
error carried — the conversion error, the handler's own error verbatim, the writer's. -/
theorem verdict_error_cases (e : Err) :
    UnitVerdict.undefined.error = some (.std .UndefinedHeader) ∧
    UnitVerdict.noSlot.error = some (.std .UndefinedHeader) ∧
    UnitVerdict.arity.error = some (.std .UnexpectedNumberOfParameters) ∧
    (UnitVerdict.conversion e).error = some e ∧ (UnitVerdict.handlerError e).error = some e ∧
    (UnitVerdict.writeError e).error = some e ∧ UnitVerdict.ok.error = none :=
  ⟨rfl, rfl, rfl, rfl, rfl, rfl, rfl⟩

/-- `verdicts` unit by unit (it is defined through `reports`, not by a recursion of its own). -/
theorem verdicts_unfold {σ : Type} (I : Iface σ) (cur : Node) (u : MsgUnit) (us : List MsgUnit)
    (w : Writer) (s : σ) :
    verdicts I cur [] w s = [] ∧
    verdicts I cur (u :: us) w s =
      verdict I cur u w s ::
        match resolve I.root cur u.hdr.path with
        | none => []
        | some (node, parent) =>
          verdicts I (parent.getD cur) us (onNode I node u (w, s)).1 (onNode I node u (w, s)).2 :=
  ⟨rfl, verdicts_cons I cur u us w s⟩

/-- The two ways to say "exactly one faulty unit" agree. -/
theorem oneFault_iff_faultAt {σ : Type} (I : Iface σ) (cur : Node) (us : List MsgUnit) (w : Writer)
    (s : σ) (k : Nat) (v : UnitVerdict) :
    OneFault I cur us w s k v ↔
      ∃ pre u suf, us = pre ++ u :: suf ∧ pre.length = k ∧ FaultAt I cur pre u suf w s v := by
  constructor
  · exact faultAt_of_oneFault
  · rintro ⟨pre, u, suf, rfl, rfl, h⟩
    exact oneFault_of_faultAt h

/-! ## The specification level -/

/-- **The errors of a message are the errors of its verdicts** — any number of faults.
With the logging wrapper, writer and user state are those of the plain interface and the
error log grows by `v.error` for each unit reached, in order: one error per faulty unit,
none per good one, none for a dropped one. -/
theorem errors_are_verdict_errors {σ : Type} (I : Iface σ) (cur : Node) (us : List MsgUnit)
    (w : Writer) (s : σ) (l : List Err) :
    specExec I.logged cur us w (s, l) =
      ((specExec I cur us w s).1, ((specExec I cur us w s).2,
        l ++ (verdicts I cur us w s).filterMap UnitVerdict.error)) := by
  rw [Iface.logged, specExec_instrument, flatMap_errLog]
  rfl

/-- **One faulty unit, exactly one error**, and it is the error of the verdict:
`UndefinedHeader` for `undefined` / `noSlot`, `UnexpectedNumberOfParameters` for `arity`,
the conversion error, the handler's own error verbatim, the write error
(`verdict_error_cases`). -/
theorem one_fault_one_error {σ : Type} {I : Iface σ} {cur : Node} {pre : List MsgUnit} {u : MsgUnit}
    {suf : List MsgUnit} {w : Writer} {s : σ} {v : UnitVerdict}
    (h : FaultAt I cur pre u suf w s v) (l : List Err) :
    ∃ e, v.error = some e ∧
      specExec I.logged cur (pre ++ u :: suf) w (s, l) =
        ((specExec I cur (pre ++ u :: suf) w s).1, ((specExec I cur (pre ++ u :: suf) w s).2,
          l ++ [e])) := by
  obtain ⟨e, he⟩ := UnitVerdict.error_of_ne_ok h.fault
  refine ⟨e, he, ?_⟩
  rw [errors_are_verdict_errors, h.verdicts_eq, List.filterMap_append, List.filterMap_cons, he,
    List.filterMap_replicate_of_none rfl, List.filterMap_replicate_of_none rfl]
  rfl

/-- **The units before the faulty one are executed normally**: on their own they are a
fault-free message (all verdicts `ok`, nothing added to the error log), and the faulty
unit and its successors are read on exactly the path, writer and user state this
fault-free message leaves — where the faulty unit gets its verdict. -/
theorem prefix_unaffected {σ : Type} {I : Iface σ} {cur : Node} {pre : List MsgUnit} {u : MsgUnit}
    {suf : List MsgUnit} {w : Writer} {s : σ} {v : UnitVerdict}
    (h : FaultAt I cur pre u suf w s v) :
    verdicts I cur pre w s = List.replicate pre.length .ok ∧
    (∀ l, specExec I.logged cur pre w (s, l) =
      ((specExec I cur pre w s).1, ((specExec I cur pre w s).2, l))) ∧
    specExec I cur (pre ++ u :: suf) w s =
      specExec I (pathThrough I.root cur pre) (u :: suf) (specExec I cur pre w s).1
        (specExec I cur pre w s).2 ∧
    verdict I (pathThrough I.root cur pre) u (specExec I cur pre w s).1 (specExec I cur pre w s).2 = v :=
  ⟨h.before,
    fun l => by
      rw [errors_are_verdict_errors, h.before, List.filterMap_replicate_of_none rfl,
        List.append_nil],
    (specExec_append I pre (u :: suf) cur w s h.resolves).1, h.here⟩

/-- **The whole trace of a message with one faulty unit.**  With the tracing wrapper the
log grows by: one `call` event per unit of the prefix (`cs`, exactly the trace of the
prefix on its own); then the faulty unit's `call` iff `v.invokes`, and its ONE `error`;
then one `call` event per unit of the suffix if the fault is execution-level (`cs'`,
exactly the trace of the suffix on the state `pre ++ [u]` left) and NOTHING if the
fault is `undefined`.  No other `error` event anywhere. -/
theorem message_trace {σ : Type} {I : Iface σ} {cur : Node} {pre : List MsgUnit} {u : MsgUnit}
    {suf : List MsgUnit} {w : Writer} {s : σ} {v : UnitVerdict}
    (h : FaultAt I cur pre u suf w s v) :
    ∃ (e : Err) (c : Option (Nat × List TVal)) (cs cs' : List (Nat × List TVal)),
      v.error = some e ∧ c.isSome = v.invokes ∧ cs.length = pre.length ∧
      cs'.length = (if v = .undefined then 0 else suf.length) ∧
      ∀ l : List Ev,
        (specExec I.traced cur pre w (s, l)).2.2 = l ++ cs.map callEv ∧
        (specExec I.traced (pathThrough I.root cur pre) [u] (specExec I cur pre w s).1
            ((specExec I cur pre w s).2, l)).2.2 = l ++ (c.toList.map callEv ++ [Ev.error e]) ∧
        (v ≠ .undefined →
          (specExec I.traced (pathThrough I.root cur (pre ++ [u])) suf
            (specExec I cur (pre ++ [u]) w s).1 ((specExec I cur (pre ++ [u]) w s).2, l)).2.2 =
              l ++ cs'.map callEv) ∧
        (specExec I.traced cur (pre ++ u :: suf) w (s, l)).2.2 =
          l ++ (cs.map callEv ++ (c.toList.map callEv ++ [Ev.error e]) ++ cs'.map callEv) := by
  obtain ⟨e, he⟩ := UnitVerdict.error_of_ne_ok h.fault
  obtain ⟨inv, hinv, hu1, hall, _⟩ := h.split
  obtain ⟨_, _, cs, hcs, hpre⟩ := verdicts_all_ok I pre cur w s _ h.before
  -- the events behind the faulty unit (`_`: the reports of `suf`, as in `hall`): none after
  -- `undefined`, else one call per unit
  obtain ⟨cs', hcs', hsuf⟩ : ∃ cs' : List (Nat × List TVal),
      cs'.length = (if v = .undefined then 0 else suf.length) ∧
      List.flatMap traceLog (if v = .undefined then [] else _) = cs'.map callEv := by
    by_cases hu : v = .undefined
    · exact ⟨[], by rw [if_pos hu]; rfl, by rw [if_pos hu]; rfl⟩
    · obtain ⟨_, _, cs', hl, hc⟩ := verdicts_all_ok I suf _ _ _ _ (h.after hu)
      exact ⟨cs', by rw [if_neg hu]; exact hl, by rw [if_neg hu]; exact hc⟩
  refine ⟨e, inv, cs, cs', he, hinv, hcs, hcs', fun l => ⟨?_, ?_, fun hu => ?_, ?_⟩⟩
  · rw [specExec_traced, hpre]
  · rw [specExec_traced, hu1, List.flatMap_cons, List.flatMap_nil, List.append_nil,
      traceLog_fault v inv e he]
  · rw [specExec_traced, ← hsuf, if_neg hu]
  · rw [specExec_traced, hall, List.flatMap_append, List.flatMap_cons, hpre, hsuf,
      traceLog_fault v inv e he]
    simp only [List.append_assoc]

/-- **The faulty unit's handler is invoked iff the fault is the handler's own** (or the
failure to write the handler's response).  Executed on the state the prefix leaves, with
the tracing wrapper, the faulty unit appends to the log: the event `call id tvs` of its
handler iff `v.invokes` — that is, iff `v` is `handlerError` or `writeError` — and then
the ONE event `error e`. -/
theorem faulty_handler_invoked_iff {σ : Type} {I : Iface σ} {cur : Node} {pre : List MsgUnit}
    {u : MsgUnit} {suf : List MsgUnit} {w : Writer} {s : σ} {v : UnitVerdict}
    (h : FaultAt I cur pre u suf w s v) :
    (v.invokes = true ↔ ∃ e, v = .handlerError e ∨ v = .writeError e) ∧
    ∃ (e : Err) (c : Option (Nat × List TVal)), v.error = some e ∧ c.isSome = v.invokes ∧
      ∀ l : List Ev,
        (specExec I.traced (pathThrough I.root cur pre) [u] (specExec I cur pre w s).1
            ((specExec I cur pre w s).2, l)).2.2 = l ++ (c.toList.map callEv ++ [Ev.error e]) := by
  refine ⟨UnitVerdict.invokes_iff_of_ne_ok h.fault, ?_⟩
  obtain ⟨e, c, cs, cs', he, hc, _, _, hl⟩ := message_trace h
  exact ⟨e, c, he, hc, fun l => (hl l).2.1⟩

/-- **All or none of the units after the faulty one.**

* `undefined` (parse-level): NONE.  The message ends there: the outcome is the state the
  prefix left plus the one `onError UndefinedHeader`, and no unit behind is even
  classified (`verdicts` has `pre.length + 1` entries).
* execution-level (`noSlot`, `arity`, `conversion`, `handlerError`, `writeError`): ALL.
  The outcome is that of the units `suf` executed on the path, writer and state that
  `pre ++ [u]` leaves; every one of them is reached and has the verdict `ok` — its
  handler runs, its response is written (`verdictOn_cases`). -/
theorem suffix_all_or_none {σ : Type} {I : Iface σ} {cur : Node} {pre : List MsgUnit} {u : MsgUnit}
    {suf : List MsgUnit} {w : Writer} {s : σ} {v : UnitVerdict}
    (h : FaultAt I cur pre u suf w s v) :
    (v.execLevel = true ∨ v = .undefined) ∧
    (v = .undefined →
      specExec I cur (pre ++ u :: suf) w s =
        ((specExec I cur pre w s).1, I.onError (specExec I cur pre w s).2 (.std .UndefinedHeader)) ∧
      (verdicts I cur (pre ++ u :: suf) w s).length = pre.length + 1) ∧
    (v.execLevel = true →
      specExec I cur (pre ++ u :: suf) w s =
        specExec I (pathThrough I.root cur (pre ++ [u])) suf
          (specExec I cur (pre ++ [u]) w s).1 (specExec I cur (pre ++ [u]) w s).2 ∧
      verdicts I (pathThrough I.root cur (pre ++ [u])) suf
          (specExec I cur (pre ++ [u]) w s).1 (specExec I cur (pre ++ [u]) w s).2 =
        List.replicate suf.length .ok ∧
      (verdicts I cur (pre ++ u :: suf) w s).length = (pre ++ u :: suf).length) := by
  have hex := UnitVerdict.execLevel_iff_of_ne_ok h.fault
  obtain ⟨_, _, _, _, hspec⟩ := h.split
  refine ⟨(Decidable.em (v = .undefined)).symm.imp_left hex.2, fun hu => ?_, fun hx => ?_⟩
  · rw [hspec, h.verdicts_eq, if_pos hu, if_pos hu]
    exact ⟨rfl, by rw [List.length_append, List.length_replicate]; rfl⟩
  · have hu := hex.1 hx
    rw [hspec, h.verdicts_eq, if_neg hu, if_neg hu]
    exact ⟨rfl, h.after hu,
      by simp only [List.length_append, List.length_replicate, List.length_cons]⟩

/-- **C06 for a message, by index.**  If among the verdicts of the units of a message
exactly one — number `k` — is not `ok`, say `v`, then

1. the error log grows by exactly ONE error, the error `e` of `v`;
2. the first `k` units are executed exactly as the fault-free message `us.take k`
   (all its verdicts are `ok`) and unit `k` gets its verdict on the state that leaves;
3. the trace is: `k` handler calls; the call of unit `k`'s handler iff `v` is
   `handlerError` or `writeError`; the one `error e`; then `us.length - (k+1)` handler
   calls — ALL the units behind — if `v` is execution-level, and NONE if `v` is
   `undefined`. -/
theorem message_one_fault {σ : Type} (I : Iface σ) (cur : Node) (us : List MsgUnit) (w : Writer) (s : σ)
    (k : Nat) (v : UnitVerdict) (h : OneFault I cur us w s k v) :
    ∃ (e : Err) (c : Option (Nat × List TVal)) (cs cs' : List (Nat × List TVal)),
      v.error = some e ∧
      (c.isSome = true ↔ ∃ e', v = .handlerError e' ∨ v = .writeError e') ∧
      cs.length = k ∧ cs'.length = (if v = .undefined then 0 else us.length - (k + 1)) ∧
      (∀ l : List Err, specExec I.logged cur us w (s, l) =
        ((specExec I cur us w s).1, ((specExec I cur us w s).2, l ++ [e]))) ∧
      verdicts I cur (us.take k) w s = List.replicate k .ok ∧
      (∃ u, us[k]? = some u ∧
        verdict I (pathThrough I.root cur (us.take k)) u (specExec I cur (us.take k) w s).1
          (specExec I cur (us.take k) w s).2 = v) ∧
      ∀ l : List Ev,
        (specExec I.traced cur (us.take k) w (s, l)).2.2 = l ++ cs.map callEv ∧
        (specExec I.traced cur us w (s, l)).2.2 =
          l ++ (cs.map callEv ++ (c.toList.map callEv ++ [Ev.error e]) ++ cs'.map callEv) := by
  obtain ⟨pre, u, suf, rfl, rfl, hf⟩ := faultAt_of_oneFault h
  obtain ⟨e, c, cs, cs', he, hc, hcs, hcs', hl⟩ := message_trace hf
  rw [List.take_left' rfl]
  have hu : (pre ++ u :: suf)[pre.length]? = some u := by
    rw [List.getElem?_append_right (Nat.le_refl _), Nat.sub_self]
    rfl
  refine ⟨e, c, cs, cs', he, ?_, hcs, ?_, fun l => ?_, hf.before, ⟨u, hu, hf.here⟩,
    fun l => ⟨(hl l).1, (hl l).2.2.2⟩⟩
  · rw [hc]
    exact UnitVerdict.invokes_iff_of_ne_ok hf.fault
  · rw [hcs', List.length_append, List.length_cons, Nat.add_sub_add_left, Nat.add_sub_cancel]
  · obtain ⟨e', he', hl'⟩ := one_fault_one_error hf l
    cases he.symm.trans he'
    exact hl'

/-! ## On the bytes -/

/-- **A complete message has one newline: its terminator.**  The rendering of a
non-empty list of well-formed units whose string and block payloads are free of
newlines is `body ++ [10]` with no byte 10 in `body`. -/
theorem terminator_only_newline : ∀ (m : List (MsgUnit × Lex)), m ≠ [] → wfMsg m = true →
    (units m).all unitNlFree = true → ∃ body, renderMsg m = body ++ [10] ∧ noNl body = true :=
  fun _ => renderMsg_shape

/-- **The errors a message reports**, on the bytes: the interpreter with the logging
wrapper, run on any rendering of the message, consumes it completely, ends at the root
without a crash, leaves the writer and user state of `specExec`, and has appended to the
error log exactly the errors of the verdicts. -/
theorem run_message_errors {σ : Type} (I : Iface σ) (m : List (MsgUnit × Lex)) (w : Writer) (s : σ)
    (l : List Err) (hne : m ≠ []) (hwf : wfMsg m = true)
    (hsafe : dropSafe I.root I.root (units m) = true) :
    run I.logged (renderMsg m) w (s, l) =
      finished I.logged ((specExec I I.root (units m) w s).1, ((specExec I I.root (units m) w s).2,
        l ++ (verdicts I I.root (units m) w s).filterMap UnitVerdict.error)) := by
  rw [run_render_run I.logged m w (s, l) hne hwf hsafe, show I.logged.root = I.root from rfl,
    errors_are_verdict_errors]
  rfl

/-- **C06 on the bytes: one faulty unit, one error.**  A complete message — any
rendering of a non-empty list of well-formed units; its only newline is the terminator
— in which exactly one unit is faulty: the run consumes the message, ends at the root,
does not crash, and the error log has grown by exactly the one error of the verdict. -/
theorem run_one_fault {σ : Type} (I : Iface σ) (m : List (MsgUnit × Lex)) (w : Writer) (s : σ)
    (l : List Err) (k : Nat) (v : UnitVerdict) (hne : m ≠ []) (hwf : wfMsg m = true)
    (hnl : (units m).all unitNlFree = true) (h : OneFault I I.root (units m) w s k v) :
    ∃ e, v.error = some e ∧
      run I.logged (renderMsg m) w (s, l) =
        finished I.logged ((specExec I I.root (units m) w s).1,
          ((specExec I I.root (units m) w s).2, l ++ [e])) := by
  obtain ⟨e, c, cs, cs', he, _, _, _, hl, _⟩ := message_one_fault I I.root (units m) w s k v h
  refine ⟨e, he, ?_⟩
  rw [run_message_errors I m w s l hne hwf (dropSafe_of_nlFree I.root I.root _ hnl),
    ← errors_are_verdict_errors, hl l]

/-- … and its trace, on the bytes: `k` handler calls, the faulty unit's call iff the
fault is `handlerError` / `writeError`, the one error, then `m.length - (k+1)` calls
(all units behind) for an execution-level fault and none for `undefined`. -/
theorem run_one_fault_trace {σ : Type} (I : Iface σ) (m : List (MsgUnit × Lex)) (w : Writer) (s : σ)
    (k : Nat) (v : UnitVerdict) (hne : m ≠ []) (hwf : wfMsg m = true)
    (hnl : (units m).all unitNlFree = true) (h : OneFault I I.root (units m) w s k v) :
    ∃ (e : Err) (c : Option (Nat × List TVal)) (cs cs' : List (Nat × List TVal)),
      v.error = some e ∧
      (c.isSome = true ↔ ∃ e', v = .handlerError e' ∨ v = .writeError e') ∧
      cs.length = k ∧ cs'.length = (if v = .undefined then 0 else m.length - (k + 1)) ∧
      ∀ l : List Ev, run I.traced (renderMsg m) w (s, l) =
        finished I.traced ((specExec I I.root (units m) w s).1, ((specExec I I.root (units m) w s).2,
          l ++ (cs.map callEv ++ (c.toList.map callEv ++ [Ev.error e]) ++ cs'.map callEv))) := by
  obtain ⟨e, c, cs, cs', he, hc, hcs, hcs', _, _, _, hl⟩ :=
    message_one_fault I I.root (units m) w s k v h
  refine ⟨e, c, cs, cs', he, hc, hcs, by rwa [units, List.length_map] at hcs', fun l => ?_⟩
  rw [run_render_run I.traced m w (s, l) hne hwf (dropSafe_of_nlFree I.root I.root _ hnl),
    show I.traced.root = I.root from rfl, specExec_traced, ← (hl l).2, specExec_traced]
  rfl

/-- **The message after a faulty one.**  Two messages in one buffer, the first faulty or
not: the second is run as a message of its own FROM THE ROOT — exactly as if the first
had not been sent, except for the writer and the user state the first one left (what
its good units and the error handler did).  Nothing else survives the terminator. -/
theorem later_message_after_faulty {σ : Type} (I : Iface σ) (m₁ m₂ : List (MsgUnit × Lex))
    (w : Writer) (s : σ) (hne₁ : m₁ ≠ []) (hw₁ : wfMsg m₁ = true)
    (hs₁ : dropSafe I.root I.root (units m₁) = true) :
    run I (renderMsg m₁ ++ renderMsg m₂) w s =
      run I (renderMsg m₂) (specExec I I.root (units m₁) w s).1 (specExec I I.root (units m₁) w s).2 :=
  C02.message_independent I m₁ (renderMsg m₂) w s hne₁ hw₁ hs₁

/-- … and the error log: the one error of the faulty first message, then exactly the
errors the second message has when executed on its own from the root on the state the
first one left — a fault in the first message causes no error in the second. -/
theorem later_message_errors {σ : Type} (I : Iface σ) (m₁ m₂ : List (MsgUnit × Lex))
    (w : Writer) (s : σ) (l : List Err) (k : Nat) (v : UnitVerdict)
    (hne₁ : m₁ ≠ []) (hne₂ : m₂ ≠ []) (hw₁ : wfMsg m₁ = true) (hw₂ : wfMsg m₂ = true)
    (hn₁ : (units m₁).all unitNlFree = true) (hs₂ : dropSafe I.root I.root (units m₂) = true)
    (h : OneFault I I.root (units m₁) w s k v) :
    ∃ e, v.error = some e ∧
      run I.logged (renderMsg m₁ ++ renderMsg m₂) w (s, l) =
        run I.logged (renderMsg m₂) (specExec I I.root (units m₁) w s).1
          ((specExec I I.root (units m₁) w s).2, l ++ [e]) ∧
      (run I.logged (renderMsg m₁ ++ renderMsg m₂) w (s, l)).s.2 =
        l ++ [e] ++
          (verdicts I I.root (units m₂) (specExec I I.root (units m₁) w s).1
            (specExec I I.root (units m₁) w s).2).filterMap UnitVerdict.error := by
  obtain ⟨e, c, cs, cs', he, _, _, _, hl, _⟩ := message_one_fault I I.root (units m₁) w s k v h
  have h1 := C02.message_independent I.logged m₁ (renderMsg m₂) w (s, l) hne₁ hw₁
    (dropSafe_of_nlFree I.root I.root _ hn₁)
  rw [show I.logged.root = I.root from rfl, hl l] at h1
  refine ⟨e, he, h1, ?_⟩
  rw [h1, run_message_errors I m₂ _ _ _ hne₂ hw₂ hs₂]
  rfl

/-! ## Non-vacuity: three units, the fault in the middle, every kind of fault

The interface `Scpi.Demo.I` (Scpi/Proofs/RunStepsDemo.lean): `X` (command 0, query 4
answering `7`), `S` (a node without handlers), `F <u8>` (command 6, returns the custom
error 1).  The user state lists the handlers that ran, 99 = the error handler. -/

namespace MsgEx

def mk (name : Nat) (q : Bool) (lits : List Lit) : MsgUnit :=
  { hdr := { path := .compound false [[name]], query := q }, lits := lits }

/-- the literal `1` -/
def one : Lit := .dec { sign := none, int := [49], dot := false, frac := [], exp := none }

def uX : MsgUnit := mk 88 false []
/-- `Y`: no such node -/
def uY : MsgUnit := mk 89 false []
/-- `S`: a node without command handler -/
def uS : MsgUnit := mk 83 false []
/-- `X 1`: one parameter too many -/
def uX1 : MsgUnit := mk 88 false [one]
/-- `F x`: character data for a `u8` -/
def uFx : MsgUnit := mk 70 false [.chars [120]]
/-- `F 1`: the handler returns an error -/
def uF1 : MsgUnit := mk 70 false [one]
/-- `X?`: answers `7⏎` — too long for a writer with room for one byte -/
def uXq : MsgUnit := mk 88 true []

def l0 : Lex := { lead := [], sep := [], commas := [], trail := [] }
def lx : Lex := { lead := [], sep := [32], commas := [], trail := [] }

/-- `X;<u>;X⏎` -/
def msg (u : MsgUnit) : List (MsgUnit × Lex) :=
  [(uX, l0), (u, if u.lits.isEmpty then l0 else lx), (uX, l0)]

def W1 : Writer := { cap := some 1 }

example : renderMsg (msg uF1) = [88, 59, 70, 32, 49, 59, 88, 10] := by decide +kernel

/-- The hypotheses of `run_one_fault` for every message. -/
example : ∀ u ∈ [uY, uS, uX1, uFx, uF1, uXq],
    msg u ≠ [] ∧ wfMsg (msg u) = true ∧ (units (msg u)).all unitNlFree = true := by decide +kernel

/-- The unit `X` in front is fine (the field `before` of the examples below). -/
theorem before_uX : verdicts Demo.I Demo.I.root [uX] Demo.W [] = List.replicate [uX].length .ok := by
  decide +kernel

/-- `X;F 1;X⏎` — `handlerError (custom 1)`. -/
theorem faultAt_uF1 :
    FaultAt Demo.I Demo.I.root [uX] uF1 [uX] Demo.W [] (.handlerError (.custom 1 [])) :=
  ⟨by decide +kernel, before_uX, by decide +kernel, fun _ => by decide +kernel⟩

/-- `X;Y;X⏎` — `undefined`. -/
example : FaultAt Demo.I Demo.I.root [uX] uY [uX] Demo.W [] .undefined :=
  ⟨by decide +kernel, before_uX, by decide +kernel, fun h => absurd rfl h⟩
/-- `X;S;X⏎` — `noSlot`. -/
example : FaultAt Demo.I Demo.I.root [uX] uS [uX] Demo.W [] .noSlot :=
  ⟨by decide +kernel, before_uX, by decide +kernel, fun _ => by decide +kernel⟩
/-- `X;X 1;X⏎` — `arity`. -/
example : FaultAt Demo.I Demo.I.root [uX] uX1 [uX] Demo.W [] .arity :=
  ⟨by decide +kernel, before_uX, by decide +kernel, fun _ => by decide +kernel⟩
/-- `X;F x;X⏎` — `conversion DataTypeError`. -/
example : FaultAt Demo.I Demo.I.root [uX] uFx [uX] Demo.W [] (.conversion (.std .DataTypeError)) :=
  ⟨by decide +kernel, before_uX, by decide +kernel, fun _ => by decide +kernel⟩
/-- `X;F 1;X⏎` — `handlerError (custom 1)`. -/
example : FaultAt Demo.I Demo.I.root [uX] uF1 [uX] Demo.W [] (.handlerError (.custom 1 [])) :=
  faultAt_uF1
/-- `X;X?;X⏎` on a writer with room for one byte — `writeError TooMuchData`. -/
example : FaultAt Demo.I Demo.I.root [uX] uXq [uX] W1 [] (.writeError (.std .TooMuchData)) :=
  ⟨by decide +kernel, by decide +kernel, by decide +kernel, fun _ => by decide +kernel⟩

/-- The same by index, through `oneFault_of_faultAt`. -/
example : OneFault Demo.I Demo.I.root (units (msg uF1)) Demo.W [] 1 (.handlerError (.custom 1 [])) :=
  oneFault_of_faultAt (pre := [uX]) (u := uF1) (suf := [uX]) faultAt_uF1

/-- What the interpreter does on the bytes (computed independently of the theorems):
user state (handlers run, 99 = error handler) and error log. -/
example :
    (run Demo.I.logged (renderMsg (msg uY)) Demo.W ([], [])).s = ([0, 99], [.std .UndefinedHeader]) ∧
    (run Demo.I.logged (renderMsg (msg uS)) Demo.W ([], [])).s = ([0, 99, 0], [.std .UndefinedHeader]) ∧
    (run Demo.I.logged (renderMsg (msg uX1)) Demo.W ([], [])).s =
      ([0, 99, 0], [.std .UnexpectedNumberOfParameters]) ∧
    (run Demo.I.logged (renderMsg (msg uFx)) Demo.W ([], [])).s = ([0, 99, 0], [.std .DataTypeError]) ∧
    (run Demo.I.logged (renderMsg (msg uF1)) Demo.W ([], [])).s = ([0, 6, 99, 0], [.custom 1 []]) ∧
    (run Demo.I.logged (renderMsg (msg uXq)) W1 ([], [])).s = ([0, 4, 99, 0], [.std .TooMuchData]) := by
  decide +kernel

/-- … and the traces: the faulty unit's handler is called in the last two cases only;
after `undefined` nothing more happens. -/
example :
    (run Demo.I.traced (renderMsg (msg uY)) Demo.W ([], [])).s.2 =
      [Ev.call 0 [], Ev.error (.std .UndefinedHeader)] ∧
    (run Demo.I.traced (renderMsg (msg uFx)) Demo.W ([], [])).s.2 =
      [Ev.call 0 [], Ev.error (.std .DataTypeError), Ev.call 0 []] ∧
    (run Demo.I.traced (renderMsg (msg uF1)) Demo.W ([], [])).s.2 =
      [Ev.call 0 [], Ev.call 6 [.int .u8 1], Ev.error (.custom 1 []), Ev.call 0 []] ∧
    (run Demo.I.traced (renderMsg (msg uXq)) W1 ([], [])).s.2 =
      [Ev.call 0 [], Ev.call 4 [], Ev.error (.std .TooMuchData), Ev.call 0 []] := by
  decide +kernel

/-- The later message: `X;Y;X⏎` then `X⏎` — one error, and the second message runs. -/
example : (run Demo.I.logged (renderMsg (msg uY) ++ renderMsg [(uX, l0)]) Demo.W ([], [])).s =
    ([0, 99, 0], [.std .UndefinedHeader]) := by decide +kernel

end MsgEx

end C06
end Scpi
