/-
C03 (lexer part) — every literal is delivered to the handler with its text verbatim.

For each kind of program data the AST `Lit` (Scpi/Spec/Ast.lean) describes ALL
spellings the grammar allows:

* character data: a letter, then letters, digits, `_`;
* decimal: optional sign, integer digits, optional `.`, fraction digits, optional
  exponent (`e`/`E`, optional sign, digits), at least one mantissa digit, leading
  zeros allowed (`DecText`);
* `#H`/`#h`, `#Q`/`#q`, `#B`/`#b` followed by at least one digit of the class;
* strings in either quote kind; blocks with 1–9 length digits.

`literal_verbatim` : `argument` on the rendering of a well-formed literal, followed by
nothing or by a byte that cannot extend the literal (`Lit.ext`; in a message: white
space, `,`, `;`, newline — `literal_verbatim_delim`), returns `Lit.value`: the text of
the literal, byte for byte (for `#H…` the digits without the prefix, as in the Rust
code; for strings and blocks the payload), tagged with its kind, and leaves the rest
of the input untouched.  Since the kind is part of the value, this also says that the
ordered choice of `argument` takes the right alternative: a decimal is not cut short
by `characters`, `#H…` is not taken by `decimal`, a block is not taken by `#H/#B/#Q`
(`dec_not_characters`, `hash_not_decimal`, …).

`arguments_values` lifts this to the comma-separated list and `parse_args_values` to
`parse`.  The conversion of the text to a number is the other half of C03
(Scpi/Props/C03.lean).  Proofs: Scpi/Proofs/RenderLit.lean, RenderArg.lean,
RenderArgs.lean.
-/
import Scpi.Props.C11

namespace Scpi
namespace C03

/-! ### One literal -/

/-- **Literals are delivered verbatim.** -/
theorem literal_verbatim (l : Lit) (rest : Bytes) (hw : l.wf = true) (he : Ends l.ext rest) :
    argument (l.render ++ rest) = .ok rest l.value :=
  argument_render hw he

/-- … in particular before white space, a comma, a semicolon or a newline. -/
theorem literal_verbatim_delim (l : Lit) (d : Nat) (r : Bytes) (hw : l.wf = true)
    (hd : isDelim d = true) : argument (l.render ++ d :: r) = .ok (d :: r) l.value :=
  argument_render hw (ends_ext_of_delim l r hd)

/-- … and at the end of the input. -/
theorem literal_verbatim_end (l : Lit) (hw : l.wf = true) : argument l.render = .ok [] l.value := by
  have := argument_render (rest := []) hw (ends_nil _)
  simpa only [List.append_nil] using this

theorem isDelim_iff (b : Nat) :
    isDelim b = true ↔ (b ≤ 9 ∨ (11 ≤ b ∧ b ≤ 32)) ∨ b = 44 ∨ b = 59 ∨ b = 10 :=
  Scpi.isDelim_iff b

/-- The value of a literal is its text (payload), tagged with its kind. -/
theorem value_cases (l : Lit) :
    (∃ s, l = .chars s ∧ l.value = .chars s ∧ l.render = s) ∨
    (∃ d, l = .dec d ∧ l.value = .dec l.render) ∨
    (∃ u ds, l = .hex u ds ∧ l.value = .hex ds ∧ l.render = 35 :: (if u then 72 else 104) :: ds) ∨
    (∃ u ds, l = .bin u ds ∧ l.value = .bin ds ∧ l.render = 35 :: (if u then 66 else 98) :: ds) ∨
    (∃ u ds, l = .oct u ds ∧ l.value = .oct ds ∧ l.render = 35 :: (if u then 81 else 113) :: ds) ∨
    (∃ q p, l = .str q p ∧ l.value = .str p ∧ l.render = q :: (p ++ [q])) ∨
    (∃ nd p, l = .block nd p ∧ l.value = .arb p ∧
      l.render = 35 :: (48 + nd) :: (padDigits nd p.length ++ p)) := by
  cases l with
  | chars s => exact Or.inl ⟨s, rfl, rfl, rfl⟩
  | dec d => exact Or.inr (Or.inl ⟨d, rfl, rfl⟩)
  | hex u ds => exact Or.inr (Or.inr (Or.inl ⟨u, ds, rfl, rfl, rfl⟩))
  | bin u ds => exact Or.inr (Or.inr (Or.inr (Or.inl ⟨u, ds, rfl, rfl, rfl⟩)))
  | oct u ds => exact Or.inr (Or.inr (Or.inr (Or.inr (Or.inl ⟨u, ds, rfl, rfl, rfl⟩))))
  | str q p => exact Or.inr (Or.inr (Or.inr (Or.inr (Or.inr (Or.inl ⟨q, p, rfl, rfl, rfl⟩)))))
  | block nd p =>
    exact Or.inr (Or.inr (Or.inr (Or.inr (Or.inr (Or.inr ⟨nd, p, rfl, rfl, rfl⟩)))))

/-! ### The recognisers one by one -/

theorem characters_verbatim (s rest : Bytes) (hs : isMnemonicText s = true)
    (he : Ends isMnemonicTail rest) : characters (s ++ rest) = .ok rest (.chars s) :=
  characters_append hs he

/-- **All decimal spellings** — sign, leading zeros, `.`, exponent in either case —
are taken whole and delivered as written. -/
theorem decimal_verbatim (d : DecText) (rest : Bytes) (hw : d.wf = true)
    (he : Ends (fun b => isDigit b || b == 46 || b == 69 || b == 101) rest) :
    decimal (d.render ++ rest) = .ok rest (.dec d.render) :=
  decimal_render hw he

/-- `#H`/`#h`, hexadecimal digits in either case. -/
theorem hexadecimal_verbatim (upper : Bool) (ds rest : Bytes) (hne : ds ≠ [])
    (hd : ds.all isHexDigit = true) (he : Ends isHexDigit rest) :
    hexadecimal (35 :: (if upper then 72 else 104) :: (ds ++ rest)) = .ok rest (.hex ds) :=
  nondecimal_render (L := fun c => c == 72 || c == 104) .hex (by cases upper <;> rfl) hne hd
    (fun _ => isHexDigit_lt) he

theorem binary_verbatim (upper : Bool) (ds rest : Bytes) (hne : ds ≠ [])
    (hd : ds.all isBinDigit = true) (he : Ends isBinDigit rest) :
    binary (35 :: (if upper then 66 else 98) :: (ds ++ rest)) = .ok rest (.bin ds) :=
  nondecimal_render (L := fun c => c == 66 || c == 98) .bin (by cases upper <;> rfl) hne hd
    (fun _ => isBinDigit_lt) he

theorem octal_verbatim (upper : Bool) (ds rest : Bytes) (hne : ds ≠ [])
    (hd : ds.all isOctDigit = true) (he : Ends isOctDigit rest) :
    octal (35 :: (if upper then 81 else 113) :: (ds ++ rest)) = .ok rest (.oct ds) :=
  nondecimal_render (L := fun c => c == 81 || c == 113) .oct (by cases upper <;> rfl) hne hd
    (fun _ => isOctDigit_lt) he

/-! ### The ordered choice -/

/-- A decimal literal is not (partly) taken as character data … -/
theorem dec_not_characters (d : DecText) (rest : Bytes) (hw : d.wf = true) :
    characters (d.render ++ rest) = .soft (some (.std .InvalidCharacter)) :=
  characters_dec_soft rest hw

/-- … and anything that starts with `#` neither as character data nor as a decimal. -/
theorem hash_not_decimal (r : Bytes) :
    characters (35 :: r) = .soft (some (.std .InvalidCharacter)) ∧
    decimal (35 :: r) = .soft (some (.std .InvalidCharacter)) :=
  ⟨characters_soft r (by decide),
    decimal_soft r (by decide) (by decide) (by decide) (by decide)⟩

/-- A block header `#1`…`#9` is not taken by the `#H/#B/#Q` recognisers. -/
theorem block_not_nondecimal (nd : Nat) (r : Bytes) (h1 : 1 ≤ nd) (h9 : nd ≤ 9) :
    hexadecimal (35 :: (48 + nd) :: r) = .soft (some (.std .InvalidCharacter)) ∧
    binary (35 :: (48 + nd) :: r) = .soft (some (.std .InvalidCharacter)) ∧
    octal (35 :: (48 + nd) :: r) = .soft (some (.std .InvalidCharacter)) := by
  -- `h1` is not needed: `#0` is not taken by them either
  have _ := h1
  exact Scpi.block_not_nondecimal r h9

/-! ### Lists of literals -/

/-- **The parameter list**: for literals `l :: ls` (at most ten) separated by commas with
any white space `cs` around them and followed by white space `w` and a terminator
`d`, `arguments` returns their values in order and stops before `w`. -/
theorem arguments_values (l : Lit) (ls : List Lit) (cs : List (Bytes × Bytes)) (w : Bytes) (d : Nat)
    (r : Bytes) (hwf : (l :: ls).all Lit.wf = true)
    (hcs : cs.all (fun p => allWs p.1 && allWs p.2) = true) (hlen : (l :: ls).length ≤ maxArgs)
    (hw : allWs w = true) (hd : d = 59 ∨ d = 10) :
    arguments (renderArgs (l :: ls) cs ++ (w ++ d :: r))
      = (.ok (w ++ d :: r) (), (l :: ls).map Lit.value) :=
  arguments_render r hwf hcs hlen hw hd

/-- **`parse` delivers the text of every literal**: the arguments of the call are the
values of the literals of the unit, however it is rendered. -/
theorem parse_args_values (root cur : Node) (u : MsgUnit) (ℓ : Lex) (t : Term) (rest : Bytes)
    (hu : u.wf = true) (hℓ : ℓ.wf = true) (hfit : ℓ.fits u = true) (nh : Node × Option Node)
    (hr : resolve root cur u.hdr.path = some nh) :
    ∃ c, parse root cur (render u ℓ t ++ rest) = .ok rest (some c) ∧
      c.args = u.lits.map Lit.value := by
  rw [C11.parse_render root cur u ℓ t rest hu hℓ hfit, hr]
  exact ⟨_, rfl, rfl⟩

/-! ### Non-vacuity: spellings -/

/-- `+01.50e-3`, `.5`, `-1.`, `007`, `1E+05`. -/
def decA : DecText := ⟨some 43, [48, 49], true, [53, 48], some (101, some 45, [51])⟩
def decB : DecText := ⟨none, [], true, [53], none⟩
def decC : DecText := ⟨some 45, [49], true, [], none⟩
def decD : DecText := ⟨none, [48, 48, 55], false, [], none⟩
def decE : DecText := ⟨none, [49], false, [], some (69, some 43, [48, 53])⟩

example : decA.wf = true ∧ decB.wf = true ∧ decC.wf = true ∧ decD.wf = true ∧ decE.wf = true := by
  decide +kernel
example : decA.render = [43, 48, 49, 46, 53, 48, 101, 45, 51] ∧ decB.render = [46, 53] ∧
    decC.render = [45, 49, 46] ∧ decD.render = [48, 48, 55] ∧
    decE.render = [49, 69, 43, 48, 53] := by decide +kernel

/-- Not decimal texts: no mantissa digit, a fraction without the point, an exponent
without digits. -/
example : (⟨some 43, [], true, [], none⟩ : DecText).wf = false ∧
    (⟨none, [49], false, [50], none⟩ : DecText).wf = false ∧
    (⟨none, [49], false, [], some (101, none, [])⟩ : DecText).wf = false := by decide +kernel

/-- The model on `+01.50e-3,` and on `.5;`. -/
example : argument (decA.render ++ [44]) = .ok [44] (.dec [43, 48, 49, 46, 53, 48, 101, 45, 51]) :=
  literal_verbatim_delim (.dec decA) 44 [] (by decide +kernel) (by decide +kernel)
example : argument (decB.render ++ [59]) = .ok [59] (.dec [46, 53]) :=
  literal_verbatim_delim (.dec decB) 59 [] (by decide +kernel) (by decide +kernel)

/-- `#HfF`, `#q17`, `#B01`, `'it'`, `"it"`, `#3005hello`, `DEF_1`, `+01.50e-3`. -/
def lits : List Lit :=
  [.hex true [102, 70], .oct false [49, 55], .bin true [48, 49], .str 39 [105, 116],
   .str 34 [105, 116], .block 3 [104, 101, 108, 108, 111], .chars [68, 69, 70, 95, 49],
   .dec decA]

example : lits.all Lit.wf = true := by decide +kernel
example : lits.map Lit.render =
    [[35, 72, 102, 70], [35, 113, 49, 55], [35, 66, 48, 49], [39, 105, 116, 39],
     [34, 105, 116, 34], [35, 51, 48, 48, 53, 104, 101, 108, 108, 111], [68, 69, 70, 95, 49],
     [43, 48, 49, 46, 53, 48, 101, 45, 51]] := by decide +kernel
example : lits.map Lit.value =
    [.hex [102, 70], .oct [49, 55], .bin [48, 49], .str [105, 116], .str [105, 116],
     .arb [104, 101, 108, 108, 111], .chars [68, 69, 70, 95, 49],
     .dec [43, 48, 49, 46, 53, 48, 101, 45, 51]] := by decide +kernel

/-- The whole list with mixed white space around the commas, followed by ` \n`. -/
example : arguments (renderArgs lits [([], []), ([32], []), ([], [9]), ([32], [32])] ++ [32, 10])
    = (.ok [32, 10] (), lits.map Lit.value) :=
  arguments_values _ _ _ [32] 10 [] (by decide +kernel) (by decide +kernel) (by decide +kernel)
    (by decide +kernel) (Or.inr rfl)

/-- Without a delimiter a class-bounded literal would be extended: `12` followed by
`3`. -/
example : argument ((Lit.dec ⟨none, [49, 50], false, [], none⟩).render ++ [51])
    = .ok [] (.dec [49, 50, 51]) := rfl

end C03
end Scpi
