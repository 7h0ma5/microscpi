/-
C03 — the two halves joined for real parameters: from the SPELLING of a decimal literal
(`DecText`, Scpi/Spec/Ast.lean — the grammar of the SCPI recogniser, for which
`Scpi.C03.decimal_verbatim` in Scpi/Props/C03Lex.lean shows that the parser delivers
`.dec d.render` verbatim) to the float the handler receives.

* `decText_denotes`: the text of a well-formed decimal literal, after its sign, is an
  `IsDecimalText` denoting `int.frac · 10^exp`.
* `decimal_literal_to_float`: `parseFloat f d.render` delivers `roundDecExact` — `roundRat`
  (nearest, ties to even, `C03.roundRat_nearest`) of exactly that rational — with the sign
  bit set iff the literal's sign is `-`.
* `decimal_literal_converts`: hence `convert .f64 (.dec d.render)` (and `.f32`) succeeds: a
  well-formed decimal literal NEVER yields -120 for a float parameter.  (Which value it
  delivers is `decimal_literal_to_float` through `convert_f64_dec` / `convert_f32_dec`.)
-/
import Scpi.Props.C03
import Scpi.Spec.Ast

namespace Scpi
namespace C03

/-- The exponent a decimal spelling denotes (0 when absent). -/
def decExpValue : Option (Nat × Option Nat × Bytes) → Int
  | none => 0
  | some (_, s, ds) => if s = some 45 then -(decimalValue ds : Int) else (decimalValue ds : Int)

/-- The text of a decimal spelling after its sign. -/
def decBody (d : DecText) : Bytes :=
  d.int ++ ((if d.dot then [46] else []) ++ d.frac) ++ DecText.renderExp d.exp

theorem decText_render (d : DecText) : d.render = d.sign.toList ++ decBody d := by
  simp [DecText.render, DecText.renderMantissa, decBody]

theorem allDigits_of_all {s : Bytes} (h : s.all isDigit = true) : AllDigits s := by
  intro b hb
  have := List.all_eq_true.mp h b hb
  simpa [isDigit] using this

theorem isExponent_render (ex : Option (Nat × Option Nat × Bytes))
    (h : (match ex with
          | none => true
          | some (e, s, ds) =>
            (e == 69 || e == 101) && isSignOpt s && ds.all isDigit && !ds.isEmpty) = true) :
    IsExponent (DecText.renderExp ex) (decExpValue ex) := by
  cases ex with
  | none => exact .absent
  | some t =>
    obtain ⟨e, s, ds⟩ := t
    simp only [Bool.and_eq_true, Bool.or_eq_true, beq_iff_eq, Bool.not_eq_true',
      List.isEmpty_eq_false_iff] at h
    obtain ⟨⟨⟨he, hs⟩, hd⟩, hne⟩ := h
    have hd' := allDigits_of_all hd
    cases s with
    | none => exact .plain e ds he hne hd'
    | some sg =>
      simp only [isSignOpt, Bool.or_eq_true, beq_iff_eq] at hs
      rcases hs with rfl | rfl
      · exact .plus e ds he hne hd'
      · exact .minus e ds he hne hd'

/-- **A well-formed decimal spelling denotes `int.frac · 10^exp`.** -/
theorem decText_denotes (d : DecText) (hw : d.wf = true) :
    IsDecimalText (decBody d) (decimalValue (d.int ++ d.frac))
      (decExpValue d.exp - (d.frac.length : Int)) ∧ isSignOpt d.sign = true := by
  unfold DecText.wf at hw
  simp only [Bool.and_eq_true, Bool.or_eq_true, Bool.not_eq_true', List.isEmpty_iff,
    List.isEmpty_eq_false_iff] at hw
  obtain ⟨⟨⟨⟨⟨hsg, hint⟩, hfrac⟩, hdot⟩, hne⟩, hex⟩ := hw
  refine ⟨⟨d.int, d.frac, DecText.renderExp d.exp, decExpValue d.exp, allDigits_of_all hint,
    allDigits_of_all hfrac, hne, isExponent_render d.exp hex, ?_, rfl, rfl⟩, hsg⟩
  unfold decBody
  by_cases hd : d.dot = true
  · right
    simp [hd]
  · rcases hdot with h | h
    · exact absurd h hd
    · left
      simp [hd, h]

/-- A decimal body starts with a digit or the point — not with a sign. -/
theorem isDecimalText_head {s : Bytes} {m : Nat} {e : Int} (h : IsDecimalText s m e) :
    ∃ c rest, s = c :: rest ∧ c ≠ 45 ∧ c ≠ 43 :=
  h.head

/-- **A well-formed decimal literal always converts to a float, correctly rounded.**
For binary32 and binary64: the text `d.render` of a well-formed decimal spelling parses
(so `convert` never answers -120 for it), and the pattern delivered is `roundRat` of
the exact rational `int.frac · 10^exp` it denotes, plus the sign bit iff its sign is `-`. -/
theorem decimal_literal_to_float (f : FloatFmt) (hf : f = fmt32 ∨ f = fmt64) (d : DecText)
    (hw : d.wf = true) :
    parseFloat f d.render =
      some (roundDecExact f (decimalValue (d.int ++ d.frac))
              (decExpValue d.exp - (d.frac.length : Int)) +
            (if d.sign = some 45 then f.signBit else 0)) := by
  obtain ⟨hden, hsg⟩ := decText_denotes d hw
  rw [decText_render, parseFloat_signed f (fun c hc => ?_) hden, roundDec_shortcuts_sound f hf]
  rw [hc] at hsg
  simpa [isSignOpt] using hsg

/-- … so `convert .f64` / `.f32` succeed on it. -/
theorem decimal_literal_converts (d : DecText) (hw : d.wf = true) :
    (∃ b, convert .f64 (.dec d.render) = .ok (.f64 b)) ∧
    (∃ b, convert .f32 (.dec d.render) = .ok (.f32 b)) := by
  refine ⟨⟨_, (convert_f64_dec _ _).mpr (decimal_literal_to_float fmt64 (Or.inr rfl) d hw)⟩,
    ⟨_, (convert_f32_dec _ _).mpr (decimal_literal_to_float fmt32 (Or.inl rfl) d hw)⟩⟩

/-- Non-vacuity: `+01.50e-3` is well formed, renders as written and denotes `150 · 10^-5`. -/
example :
    let d : DecText := ⟨some 43, [48, 49], true, [53, 48], some (101, some 45, [51])⟩
    d.wf = true ∧ d.render = [43, 48, 49, 46, 53, 48, 101, 45, 51] ∧
    decimalValue (d.int ++ d.frac) = 150 ∧ decExpValue d.exp - (d.frac.length : Int) = -5 := by
  decide +kernel

end C03
end Scpi
