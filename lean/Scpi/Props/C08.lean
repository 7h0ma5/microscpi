/-
C08 (recogniser and `parse` level) — "The payload of a quoted string or
definite-length block may contain any byte its syntax permits - ';', ',', ':', '#',
the other quote character, white space, and newline - and is delivered verbatim, never
interpreted as a separator or terminator, …"

The streaming half (the payload may be split over several reads of `process`) is in
Scpi/Props/C08Process.lean.  Proofs: Scpi/Proofs/RenderLit.lean, RenderArg.lean, RenderParse.lean.
-/
import Scpi.Props.C11

namespace Scpi
namespace C08

/-- **Strings are verbatim**: whatever bytes other than the quote `q` the payload (valid
UTF-8) contains — `;` `,` `:` `#` newline, white space, the other quote — they are payload,
and what follows the closing quote is untouched (also when it is empty). -/
theorem string_verbatim (q : Nat) (payload rest : Bytes) (hv : validUtf8 payload = true)
    (hq : ∀ b ∈ payload, b ≠ q) :
    quoted q (q :: (payload ++ q :: rest)) = .ok rest (.str payload) :=
  quoted_render q rest hv (all_bne_of_forall_ne hq)

/-- `argument` recognises a single- or double-quoted string as a string. -/
theorem argument_string (q : Nat) (payload rest : Bytes) (hq39 : q = 39 ∨ q = 34)
    (hv : validUtf8 payload = true) (hq : ∀ b ∈ payload, b ≠ q) :
    argument (q :: (payload ++ q :: rest)) = .ok rest (.str payload) :=
  argument_str rest hq39 hv (all_bne_of_forall_ne hq)

/-- The payload `a;b,c:d#e'f \n` (all the separators, the other quote, a blank and a
newline) in double quotes, followed by `;X`. -/
example : argument ([34] ++ [97, 59, 98, 44, 99, 58, 100, 35, 101, 39, 102, 32, 10] ++ [34] ++ [59, 88])
    = .ok [59, 88] (.str [97, 59, 98, 44, 99, 58, 100, 35, 101, 39, 102, 32, 10]) := rfl

/-- The hypotheses of `string_verbatim` hold for that payload. -/
example : validUtf8 [97, 59, 98, 44, 99, 58, 100, 35, 101, 39, 102, 32, 10] = true ∧
    ∀ b ∈ [97, 59, 98, 44, 99, 58, 100, 35, 101, 39, 102, 32, 10], b ≠ 34 := by decide +kernel

/-- `#`, the number of length digits, the length in that many digits. -/
def blockHeader (nd len : Nat) : Bytes := 35 :: (48 + nd) :: padDigits nd len

example : blockHeader 1 5 = [35, 49, 53] ∧ blockHeader 3 42 = [35, 51, 48, 52, 50] ∧
    blockHeader 9 0 = [35, 57, 48, 48, 48, 48, 48, 48, 48, 48, 48] := by decide +kernel

/-- The length field is the decimal spelling of the length: its digits evaluate to it. -/
theorem blockHeader_length_value (nd len : Nat) (h : len < 10 ^ nd) :
    (padDigits nd len).length = nd ∧ (padDigits nd len).all isDigit = true ∧
      digitsVal 10 (padDigits nd len) 0 = some len :=
  ⟨padDigits_length nd len, padDigits_all_digit nd len, by
    rw [digitsVal_padDigits, Nat.mod_eq_of_lt h]⟩

/-- **Blocks are verbatim**: exactly `payload.length` bytes of ANY value follow the
header and are the payload; what follows is untouched (also when it is empty). -/
theorem block_verbatim (nd : Nat) (payload rest : Bytes) (h1 : 1 ≤ nd) (h9 : nd ≤ 9)
    (hl : payload.length < 10 ^ nd) :
    arbitrary (blockHeader nd payload.length ++ payload ++ rest) = .ok rest (.arb payload) := by
  have := arbitrary_render payload rest h1 h9 hl
  simpa only [blockHeader, List.cons_append, List.append_assoc] using this

/-- `argument` recognises it as a block (not as `#H`, `#B`, `#Q` data). -/
theorem argument_block (nd : Nat) (payload rest : Bytes) (h1 : 1 ≤ nd) (h9 : nd ≤ 9)
    (hl : payload.length < 10 ^ nd) :
    argument (blockHeader nd payload.length ++ payload ++ rest) = .ok rest (.arb payload) := by
  have := Scpi.argument_block payload rest h1 h9 hl
  simpa only [blockHeader, List.cons_append, List.append_assoc] using this

/-- `#206` and the six bytes `; \n , 0xFF 0x00 "`, followed by `\n`. -/
example : argument (blockHeader 2 6 ++ [59, 10, 44, 255, 0, 34] ++ [10])
    = .ok [10] (.arb [59, 10, 44, 255, 0, 34]) :=
  argument_block 2 [59, 10, 44, 255, 0, 34] [10] (by decide) (by decide) (by decide)

/-- **Every parameter of an accepted unit is delivered verbatim** (for strings and
blocks: the payload), whatever white space the unit is rendered with; the unit ends at
the terminator after the last parameter. -/
theorem parse_args_verbatim (root cur : Node) (u : MsgUnit) (ℓ : Lex) (t : Term) (rest : Bytes)
    (hu : u.wf = true) (hℓ : ℓ.wf = true) (hfit : ℓ.fits u = true) (nh : Node × Option Node)
    (hr : resolve root cur u.hdr.path = some nh) :
    ∃ c, parse root cur (render u ℓ t ++ rest) = .ok rest (some c) ∧ c.node = nh.1 ∧
      c.args = u.lits.map Lit.value := by
  rw [C11.parse_render root cur u ℓ t rest hu hℓ hfit, hr]
  exact ⟨_, rfl, rfl, rfl⟩

/-- A header, a blank and one string parameter. -/
theorem parse_string_param (root cur : Node) (p : HdrPath) (q : Nat) (payload rest : Bytes)
    (t : Term) (hp : p.wf = true) (hq39 : q = 39 ∨ q = 34) (hv : validUtf8 payload = true)
    (hq : ∀ b ∈ payload, b ≠ q) (nh : Node × Option Node) (hr : resolve root cur p = some nh) :
    parse root cur (p.render ++ 32 :: q :: (payload ++ q :: t.byte :: rest)) =
      .ok rest (some { node := nh.1, header := nh.2, query := false, args := [.str payload],
                       terminated := decide (t = .nl) }) := by
  have hl : (Lit.str q payload).wf = true := by
    have hq' : (q == 39 || q == 34) = true := by rcases hq39 with rfl | rfl <;> rfl
    simp only [Lit.wf, hq', hv, all_bne_of_forall_ne hq, Bool.and_self]
  have h := parse_one_param root cur t rest hp hl hr
  simpa only [Lit.render, Lit.value, List.cons_append, List.append_assoc, List.nil_append] using h

/-- A header, a blank and one block parameter. -/
theorem parse_block_param (root cur : Node) (p : HdrPath) (nd : Nat) (payload rest : Bytes)
    (t : Term) (hp : p.wf = true) (h1 : 1 ≤ nd) (h9 : nd ≤ 9) (hl : payload.length < 10 ^ nd)
    (nh : Node × Option Node) (hr : resolve root cur p = some nh) :
    parse root cur (p.render ++ 32 :: (blockHeader nd payload.length ++ payload ++ t.byte :: rest)) =
      .ok rest (some { node := nh.1, header := nh.2, query := false, args := [.arb payload],
                       terminated := decide (t = .nl) }) := by
  have hl : (Lit.block nd payload).wf = true := by
    simp only [Lit.wf, h1, h9, hl, decide_true, Bool.and_self]
  have h := parse_one_param root cur t rest hp hl hr
  simpa only [Lit.render, Lit.value, blockHeader, List.cons_append, List.append_assoc] using h

/-- `S:A "x;y\n";S:A\n`: the first unit ends at the `;` after the closing quote. -/
example : ∃ c, parse C11.tree C11.tree
      ([83, 58, 65, 32, 34, 120, 59, 121, 10, 34, 59] ++ [83, 58, 65, 10])
    = .ok [83, 58, 65, 10] (some c) ∧ c.args = [.str [120, 59, 121, 10]] ∧ c.terminated = false :=
  ⟨_, parse_string_param C11.tree C11.tree (.compound false [[83], [65]]) 34 [120, 59, 121, 10]
    [83, 58, 65, 10] .semi (by decide +kernel) (Or.inr rfl) (by decide +kernel)
    (by decide +kernel) _ rfl, rfl, rfl⟩

/-- `S:A #13;\n;\n`: the three payload bytes `;\n;` are data, the final `\n` terminates. -/
example : ∃ c, parse C11.tree C11.tree [83, 58, 65, 32, 35, 49, 51, 59, 10, 59, 10]
    = .ok [] (some c) ∧ c.args = [.arb [59, 10, 59]] ∧ c.terminated = true :=
  ⟨_, parse_block_param C11.tree C11.tree (.compound false [[83], [65]]) 1 [59, 10, 59] [] .nl
    (by decide +kernel) (by decide) (by decide) (by decide) _ rfl, rfl, rfl⟩

end C08
end Scpi
