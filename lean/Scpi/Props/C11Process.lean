/-
C08 + C11 — `process` on well-formed traffic whose string and block payloads may contain
NEWLINES is given by the byte-free specification, under every chunking.

`Scpi.C07.process_render` (Scpi/Props/C07Render.lean) needs payloads without newline,
because `process` calls the interpreter at every byte 10.  Here that condition is
dropped: `Scpi.C08.process_payload_messages` (resumption at an unfinished unit) is
combined with the message-level refinement `Scpi.Msg.run_render`.

Specification (`Scpi.Combo.specSession`, Scpi/Proofs/SessionRender.lean):

    specSession I []           w s = (w, s)
    specSession I (us :: rest) w s = let (w', s') := specExec I I.root us w s
                                     specSession I rest w' s'

on the UNBOUNDED writer `{ cap := none }`; the observables are the final user state and
the BYTES handed to `adapter.write` (`outBytes`: the concatenation of the writes — how
they are split into writes depends on where the embedded newlines are, see the
example `exNl` of Scpi/Props/C07Render.lean).

Hypotheses:
* every message is `Renderable I.root n`: non-empty, `wfMsg`, fits the `n`-byte command
  buffer, and `dropSafe` from the root — a unit whose header does not resolve, and the
  units after it, have no newline in a payload (`Scpi.Msg.run_render_needs_dropSafe`
  shows that it is needed already for `run`); it holds when every header resolves;
* `RespFits I n`: the response of each message is at most `n` bytes (`process` has an
  `n`-byte response buffer per call of the interpreter; that some bound is needed:
  `Scpi.C08.exQ_response_bound_needed`).
-/
import Scpi.Proofs.SessionRender

namespace Scpi

namespace C08
open Msg Combo

/-- **`process` on rendered messages with arbitrary payloads.**  For every interface,
every `n ≥ 1`, every list of renderable messages in any white space / CR LF / letter
case, whose responses fit, and EVERY fault-free read schedule delivering the
concatenated renderings (cut inside payloads, at embedded newlines, anywhere): the
final user state is that of `specSession` on the unit lists and the bytes written are
the bytes `specSession` writes. -/
theorem process_render_payload {σ : Type} (I : Iface σ) (n : Nat)
    (ms : List (List (MsgUnit × Lex))) (sc : Script) (s : σ) (hn : 1 ≤ n) (hf : sc.fault = none)
    (hs : sc.stream = (ms.map renderMsg).flatten) (hm : ∀ m ∈ ms, Renderable I.root n m)
    (hr : RespFits I n (ms.map units) { cap := none } s) :
    (process I n sc s).user = (specSession I (ms.map units) { cap := none } s).2 ∧
    outBytes ((process I n sc s).trace.filter PEv.nonRead) =
      (specSession I (ms.map units) { cap := none } s).1.buf := by
  obtain ⟨a, b⟩ := process_payload_messages I n sc (ms.map renderMsg) s hn hf hs
    (session_render I n ms _ s hm hr)
  rw [a, b, hs, run_session_render I n ms _ s hm]
  exact ⟨rfl, rfl⟩

/-- **Observably**: the same with the tracing wrapper.  The log of handler invocations
(with the converted parameters — for strings and blocks the payload verbatim) and of
reported errors that `process` produces under any chunking is the log of the
specification; the first component of the user state is the final state of the
un-instrumented specification.  (Hypotheses about `I` only.) -/
theorem process_render_payload_traced {σ : Type} (I : Iface σ) (n : Nat)
    (ms : List (List (MsgUnit × Lex))) (sc : Script) (s : σ) (hn : 1 ≤ n) (hf : sc.fault = none)
    (hs : sc.stream = (ms.map renderMsg).flatten) (hm : ∀ m ∈ ms, Renderable I.root n m)
    (hr : RespFits I n (ms.map units) { cap := none } s) :
    (process I.traced n sc (s, [])).user.2 =
      (specSession I.traced (ms.map units) { cap := none } (s, [])).2.2 ∧
    (process I.traced n sc (s, [])).user.1 = (specSession I (ms.map units) { cap := none } s).2 ∧
    outBytes ((process I.traced n sc (s, [])).trace.filter PEv.nonRead) =
      (specSession I (ms.map units) { cap := none } s).1.buf := by
  have hm' : ∀ m ∈ ms, Renderable I.traced.root n m := hm
  obtain ⟨a, b⟩ := process_payload_messages I.traced n sc (ms.map renderMsg) (s, []) hn hf hs
    (session_traced I n _ _ s [] (session_render I n ms _ s hm hr))
  have e := run_traced I sc.stream { cap := none } s []
  refine ⟨?_, ?_, ?_⟩
  · rw [a, hs, run_session_render I.traced n ms _ _ hm']
    rfl
  · rw [a, e, hs, run_session_render I n ms _ s hm]
    rfl
  · rw [b, e, hs, run_session_render I n ms _ s hm]
    rfl

end C08

namespace C11
open Msg Combo

/-- **Lexical choices and chunking are jointly irrelevant, newlines in payloads
included.**  Two renderings of the same messages with different white space (CR LF or
LF, …), each fitting the buffer, the responses fitting, through ANY two fault-free read
schedules: the same final user state and the same bytes written. -/
theorem process_payload_lex_irrelevant {σ : Type} (I : Iface σ) (n : Nat)
    (ms₁ ms₂ : List (List (MsgUnit × Lex))) (sc₁ sc₂ : Script) (s : σ) (hn : 1 ≤ n)
    (hf₁ : sc₁.fault = none) (hf₂ : sc₂.fault = none)
    (hs₁ : sc₁.stream = (ms₁.map renderMsg).flatten) (hs₂ : sc₂.stream = (ms₂.map renderMsg).flatten)
    (hm₁ : ∀ m ∈ ms₁, Renderable I.root n m) (hm₂ : ∀ m ∈ ms₂, Renderable I.root n m)
    (hu : ms₁.map units = ms₂.map units)
    (hr : RespFits I n (ms₁.map units) { cap := none } s) :
    (process I n sc₁ s).user = (process I n sc₂ s).user ∧
    outBytes ((process I n sc₁ s).trace.filter PEv.nonRead) =
      outBytes ((process I n sc₂ s).trace.filter PEv.nonRead) := by
  obtain ⟨a₁, b₁⟩ := C08.process_render_payload I n ms₁ sc₁ s hn hf₁ hs₁ hm₁ hr
  obtain ⟨a₂, b₂⟩ := C08.process_render_payload I n ms₂ sc₂ s hn hf₂ hs₂ hm₂ (hu ▸ hr)
  rw [a₁, a₂, b₁, b₂, hu]
  exact ⟨rfl, rfl⟩

end C11

/-! ### Non-vacuity

The demo interface of Scpi/Props/RunRender.lean and its message
`x?;s:p "a;b,⏎",#14;,⏎⏎ ; b ⏎` (three embedded newlines), followed by `s:a;b;:x;*c⏎`. -/

namespace C08
open Msg Combo

def exMsgs : List (List (MsgUnit × Lex)) := [Msg.Demo.msg4, Msg.Demo.msg1]

example : (exMsgs.map renderMsg).flatten =
    [120, 63, 59, 32, 115, 58, 112, 9, 34, 97, 59, 98, 44, 10, 34, 32, 44, 32, 35, 49, 52, 59, 44,
     10, 10, 32, 9, 59, 32, 98, 9, 32, 9, 10,
     115, 58, 97, 59, 98, 59, 58, 120, 59, 42, 99, 10] := by decide +kernel

theorem exMsgs_ok : (∀ m ∈ exMsgs, Renderable Msg.Demo.I.root 34 m) ∧
    RespFits Msg.Demo.I 34 (exMsgs.map units) { cap := none } [] := by
  refine ⟨?_, ⟨by decide +kernel, by decide +kernel, trivial⟩⟩
  intro m hm
  simp only [exMsgs, List.mem_cons, List.not_mem_nil, or_false] at hm
  rcases hm with rfl | rfl <;>
    exact ⟨by decide +kernel, by decide +kernel, by decide +kernel, by decide +kernel⟩

/-- What the specification says: the query, the handler with both payloads verbatim, `b`,
then the four handlers of the second message; the bytes `7⏎`. -/
example : (specSession Msg.Demo.I (exMsgs.map units) { cap := none } []).1.buf = [55, 10] ∧
    (specSession Msg.Demo.I (exMsgs.map units) { cap := none } []).2 =
      [(4, []), (5, [.str [97, 59, 98, 44, 10], .bytes [59, 44, 10, 10]]), (2, []),
       (1, []), (2, []), (0, []), (3, [])] := by decide +kernel

/-- A schedule that cuts at the first embedded newline, inside the block, … -/
def exCuts : Script := { stream := (exMsgs.map renderMsg).flatten, sizes := [14, 9, 1, 0, 7, 100] }

/-- The theorem, instantiated … -/
example : (process Msg.Demo.I 34 exCuts []).user =
    (specSession Msg.Demo.I (exMsgs.map units) { cap := none } []).2 :=
  (process_render_payload Msg.Demo.I 34 exMsgs exCuts [] (by decide) rfl rfl exMsgs_ok.1 exMsgs_ok.2).1

/-- … and `process` computed independently of it. -/
example : (process Msg.Demo.I 34 exCuts []).user =
      [(4, []), (5, [.str [97, 59, 98, 44, 10], .bytes [59, 44, 10, 10]]), (2, []),
       (1, []), (2, []), (0, []), (3, [])] ∧
    outBytes ((process Msg.Demo.I 34 exCuts []).trace.filter PEv.nonRead) = [55, 10] := by
  decide +kernel

end C08
end Scpi
