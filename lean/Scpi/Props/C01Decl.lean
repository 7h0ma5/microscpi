/-
C01, the declaration side — "each of its mnemonics equals, ignoring ASCII case, the short
form (declared spelling with its lower-case letters removed) or the long form (full
declared spelling) of the corresponding declared node … and the query mark matching the
declaration".

Scpi/Props/C01Macro.lean relates the run-time walk to the PARSED declarations
(`Command`, `Part.short`, `Part.long`).  This file says what the parsed declaration is
in terms of the declaration TEXT the user wrote in `#[scpi(cmd = "…")]` (ASCII), i.e.
what `Command::try_from(&str)` of microscpi-macros/src/command.rs computes, stage by stage
(query mark, colons, trimming, brackets, the two forms), each stage by a statement that
determines its result.  `header_matches_declared` then restates the acceptance rule on the
declared names, and `invokes_iff_declared` joins it with the compiled tree.

FINDING (`parsePart_never_crashes`): the `crash` outcome of `parsePart` — the slice
`&part[1..part.len() - 1]` with `len < 2` — is unreachable: a one-byte text cannot both
start with `[` and end with `]`, and the lone `[` is NOT treated as a bracket but
declares the mandatory node named `[`.  `Command.parse` is total (`parse_total`).

Vocabulary (Scpi/Proofs/DeclText.lean, namespace `Scpi.M6`): `dropLower`, `upper`,
`declNode part = (name, optional)`, `partOfNode`, `partOf`.
-/
import Scpi.Proofs.DeclText
import Scpi.Proofs.ListScan
import Scpi.Props.C01Macro

namespace Scpi
namespace C01
open M6

/-! ## Trimming and splitting -/

/-- `str::trim`: the text is leading white space, the trimmed text, trailing white
space; the trimmed text neither begins nor ends with white space (blank, TAB, LF, VT,
FF, CR). -/
theorem trimBytes_spec (s : Bytes) :
    ∃ pre post, s = pre ++ trimBytes s ++ post ∧
      (∀ x ∈ pre, isTrimWs x = true) ∧ (∀ x ∈ post, isTrimWs x = true) ∧
      (∀ b, (trimBytes s).head? = some b → isTrimWs b = false) ∧
      (∀ b, (trimBytes s).getLast? = some b → isTrimWs b = false) := by
  -- `t`: without the leading white space; cut at the back, `t = trimBytes s ++ post`
  let t := s.dropWhile isTrimWs
  let post := (t.reverse.takeWhile isTrimWs).reverse
  have ht : t = trimBytes s ++ post := by
    rw [← List.reverse_reverse t,
      ← List.takeWhile_append_dropWhile (p := isTrimWs) (l := t.reverse), List.reverse_append]
    rfl
  refine ⟨s.takeWhile isTrimWs, post, ?_, ?_, ?_, ?_, ?_⟩
  · rw [List.append_assoc, ← ht]
    exact List.takeWhile_append_dropWhile.symm
  · intro x hx
    exact List.all_eq_true.1 List.all_takeWhile x hx
  · intro x hx
    exact List.all_eq_true.1 List.all_takeWhile x (List.mem_reverse.1 hx)
  · intro b hb
    refine head_dropWhile s b (?_ : t.head? = some b)
    rw [ht, List.head?_append, hb]
    rfl
  · intro b hb
    rw [trimBytes, List.getLast?_reverse] at hb
    exact head_dropWhile t.reverse b hb

/-- … and this determines it. -/
theorem trimBytes_only (pre t post : Bytes) (hpre : ∀ x ∈ pre, isTrimWs x = true)
    (hpost : ∀ x ∈ post, isTrimWs x = true) (hh : ∀ b, t.head? = some b → isTrimWs b = false)
    (hl : ∀ b, t.getLast? = some b → isTrimWs b = false) : trimBytes (pre ++ t ++ post) = t := by
  rw [trimBytes, List.append_assoc]
  cases t with
  | nil =>
    rw [List.nil_append, List.dropWhile_append_of_pos hpre, ← List.append_nil post,
      List.dropWhile_append_of_pos hpost]
    rfl
  | cons b t' =>
    -- the first byte of `t` stops the cut at the front, its last byte the cut at the back
    rw [(takeWhile_dropWhile_append (rest := b :: t' ++ post) hpre hh).2, List.reverse_append,
      (takeWhile_dropWhile_append (fun x hx => hpost x (List.mem_reverse.1 hx))
        (fun c hc => hl c (by rwa [List.head?_reverse] at hc))).2,
      List.reverse_reverse]

/-- `str::split(':')`: at least one piece, no piece contains a colon, and the pieces
joined by colons (`renderPath`) are the text. -/
theorem splitColon_spec (s : Bytes) :
    splitColon s [] ≠ [] ∧ (∀ p ∈ splitColon s [], 58 ∉ p) ∧ renderPath (splitColon s []) = s := by
  simpa using M6.splitColon_spec s [] (by simp)

/-- … and this determines them. -/
theorem splitColon_only (ps : List Bytes) (hne : ps ≠ []) (hp : ∀ p ∈ ps, 58 ∉ p) :
    splitColon (renderPath ps) [] = ps :=
  match ps, hne, hp with
  | [], h, _ => absurd rfl h
  | [p], _, hp => by
    rw [show renderPath [p] = p ++ [] from (List.append_nil p).symm,
      splitColon_append p [] [] (hp p (.head _))]
    rfl
  | p :: q :: ps, _, hp => by
    rw [show renderPath (p :: q :: ps) = p ++ 58 :: renderPath (q :: ps) from rfl,
      splitColon_append p _ [] (hp p (.head _)), splitColon, if_pos (by rfl),
      splitColon_only (q :: ps) (List.cons_ne_nil _ _) fun x hx => hp x (.tail _ hx)]
    rfl

/-! ## One declared node -/

/-- One colon-separated piece, after trimming: a blank piece is skipped; otherwise
the piece declares the node `declNode (trimBytes raw) = (name, optional)` and the part is
`optional`, short form `dropLower name`, long form `upper name`.  There is no third
outcome. -/
theorem parsePart_spec (raw : Bytes) :
    (parsePart raw = .ok none ↔ trimBytes raw = []) ∧
    (∀ p, parsePart raw = .ok (some p) ↔
      trimBytes raw ≠ [] ∧ p.optional = (declNode (trimBytes raw)).2 ∧
      p.short = dropLower (declNode (trimBytes raw)).1 ∧
      p.long = upper (declNode (trimBytes raw)).1) ∧
    ∀ c, parsePart raw ≠ .error c := by
  rw [parsePart_eq, partOf]
  by_cases he : trimBytes raw = []
  · rw [if_pos he]
    exact ⟨iff_of_true rfl he, fun p => iff_of_false nofun fun h => h.1 he, nofun⟩
  · rw [if_neg he]
    refine ⟨iff_of_false nofun he, fun p => ⟨?_, ?_⟩, nofun⟩
    · intro h
      cases h
      exact ⟨he, rfl, rfl, rfl⟩
    · obtain ⟨o, sh, lo⟩ := p
      rintro ⟨_, rfl, rfl, rfl⟩
      rfl

/-- FINDING: the slice never panics.  `parsePart` has no crash outcome; in
particular the lone `[` declares the mandatory node named `[`. -/
theorem parsePart_never_crashes (raw : Bytes) (c : Crash) : parsePart raw ≠ .error c :=
  (parsePart_spec raw).2.2 c

example : parsePart [91] = .ok (some ⟨false, [91], [91]⟩) ∧
    parsePart [91, 93] = .ok (some ⟨true, [], []⟩) ∧
    parsePart [93, 91] = .ok (some ⟨false, [93, 91], [93, 91]⟩) := by decide +kernel

/-- A bracketed piece `[name]` (of at least the two brackets) declares the OPTIONAL
node `name`. -/
theorem parsePart_bracketed (raw name : Bytes) (h : trimBytes raw = 91 :: name ++ [93]) :
    parsePart raw = .ok (some { optional := true, short := dropLower name, long := upper name }) := by
  rw [parsePart_eq, partOf, h, if_neg (by simp), declNode_bracketed]
  rfl

/-- Any other non-blank piece declares the MANDATORY node whose name is the piece. -/
theorem parsePart_plain (raw : Bytes) (hne : trimBytes raw ≠ [])
    (h : ¬ ∃ name, trimBytes raw = 91 :: name ++ [93]) :
    parsePart raw = .ok (some { optional := false, short := dropLower (trimBytes raw),
                                long := upper (trimBytes raw) }) := by
  rw [parsePart_eq, partOf, if_neg hne, declNode_plain _ h]
  rfl

/-- What a trimmed piece declares, by shape. -/
theorem declNode_spec (part name : Bytes) :
    declNode (91 :: name ++ [93]) = (name, true) ∧
    ((¬ ∃ n, part = 91 :: n ++ [93]) → declNode part = (part, false)) :=
  ⟨declNode_bracketed name, declNode_plain part⟩

/-- The short form has no lower-case letter and is the name if the name has none; the
long form has the length of the name and is the name if the name has none. -/
theorem forms_spec (name : Bytes) :
    (∀ b ∈ dropLower name, isLowerAscii b = false) ∧ (∀ b ∈ upper name, isLowerAscii b = false) ∧
    (upper name).length = name.length ∧
    ((∀ b ∈ name, isLowerAscii b = false) → dropLower name = name ∧ upper name = name) := by
  refine ⟨lowerFree_filter name, lowerFree_map_toUpper name, List.length_map _, fun h => ⟨?_, ?_⟩⟩
  · refine List.filter_eq_self.2 fun b hb => ?_
    rw [h b hb]
    rfl
  · exact (List.map_congr_left fun b hb => toUpper_of_not_lower (h b hb)).trans (List.map_id _)

/-! ## The whole declaration -/

/-- The declared nodes of a declaration text (already without its `?`): the non-blank
pieces between the colons, in order, each as `(name, optional)`. -/
def declNodes (value : Bytes) : List (Bytes × Bool) :=
  (splitColon value []).filterMap fun raw =>
    if trimBytes raw = [] then none else some (declNode (trimBytes raw))

/-- The declaration text without the query mark, and whether it had one. -/
def declValue (s : Bytes) : Bytes × Bool :=
  if s.getLast? == some 63 then (s.dropLast, true) else (s, false)

theorem declValue_query (v : Bytes) : declValue (v ++ [63]) = (v, true) := by
  simp [declValue]

theorem declValue_command (s : Bytes) (h : ∀ v, s ≠ v ++ [63]) : declValue s = (s, false) := by
  unfold declValue
  split
  · next hq =>
    obtain ⟨v, hv⟩ := List.getLast?_eq_some_iff.1 (beq_iff_eq.1 hq)
    exact absurd hv (h v)
  · rfl

/-- What `Command.parse s` yields (`declaration_parse_spec`, whose right-hand side is this, written
out); `invokes_iff_declared` takes the declarations in this form. -/
def declCommand (s : Bytes) : Command :=
  { parts := (declNodes (declValue s).1).map partOfNode, query := (declValue s).2 }

theorem parts_eq_nodes (value : Bytes) :
    (splitColon value []).filterMap partOf = (declNodes value).map partOfNode := by
  unfold declNodes
  rw [List.map_filterMap]
  congr 1
  funext raw
  unfold partOf
  split <;> rfl

/-- `Command::try_from(&str)`: parsing never fails; the declaration is a QUERY iff
the text ends with `?`; and its parts are, in order, the parts of the declared nodes —
the non-blank colon-separated pieces of the text without that `?`, each trimmed, `[…]`
marking an optional node — with short form `dropLower name` and long form `upper name`. -/
theorem declaration_parse_spec (s : Bytes) :
    Command.parse s =
      .ok { parts := (declNodes (declValue s).1).map partOfNode, query := (declValue s).2 } := by
  rw [parse_eq, ← parts_eq_nodes]
  unfold declValue
  cases s.getLast? == some 63 <;> rfl

/-- The same as an implication from a successful parse: the query flag and the parts. -/
theorem declaration_parse_ok (s : Bytes) (c : Command) (h : Command.parse s = .ok c) :
    (c.query = true ↔ ∃ v, s = v ++ [63]) ∧
    c.parts = (splitColon (declValue s).1 []).filterMap partOf ∧
    parseParts (splitColon (declValue s).1 []) = .ok c.parts ∧
    c.parts = (declNodes (declValue s).1).map partOfNode := by
  rw [declaration_parse_spec] at h
  cases h
  refine ⟨?_, (parts_eq_nodes _).symm, by rw [parseParts_eq, parts_eq_nodes], rfl⟩
  rw [← List.getLast?_eq_some_iff]
  unfold declValue
  split
  · next hq => exact iff_of_true rfl (beq_iff_eq.1 hq)
  · next hq => exact iff_of_false nofun fun h => hq (beq_iff_eq.2 h)

theorem parse_total (s : Bytes) : ∃ c, Command.parse s = .ok c :=
  ⟨_, declaration_parse_spec s⟩

/-! ## Matching a mnemonic against a declared node -/

/-- A mnemonic equals the long form ignoring ASCII case iff it equals the DECLARED NAME
ignoring ASCII case. -/
theorem long_matches_declared (name x : Bytes) :
    eqIgnoreAsciiCase (upper name) x = eqIgnoreAsciiCase name x :=
  eqIgnoreAsciiCase_map_left toLower_toUpper name x

/-- … i.e. iff both have the same lower-casing. -/
theorem long_matches_declared_iff (name x : Bytes) :
    eqIgnoreAsciiCase (upper name) x = true ↔ x.map toLowerAscii = name.map toLowerAscii := by
  rw [long_matches_declared, eqIgnoreAsciiCase_iff, eq_comm]

/-- Both forms of a parsed part, by lower-casings: a mnemonic equals the short form ignoring
ASCII case iff it equals, ignoring ASCII case, the declared name with its lower-case letters
removed (`dropLower`, written out), and the long form iff it equals the declared name. -/
theorem short_matches_declared (raw : Bytes) (p : Part) (h : parsePart raw = .ok (some p)) (x : Bytes) :
    (eqIgnoreAsciiCase p.short x = true ↔
      x.map toLowerAscii =
        (((declNode (trimBytes raw)).1.filter fun c => !isLowerAscii c)).map toLowerAscii) ∧
    (eqIgnoreAsciiCase p.long x = true ↔
      x.map toLowerAscii = (declNode (trimBytes raw)).1.map toLowerAscii) := by
  obtain ⟨_, h2, h3, h4⟩ := ((parsePart_spec raw).2.1 p).1 h
  rw [h3, h4, long_matches_declared_iff, eqIgnoreAsciiCase_iff, eq_comm]
  exact ⟨Iff.rfl, Iff.rfl⟩

/-- A header (its mnemonics as typed) matches declared nodes: every mnemonic equals,
ignoring ASCII case, the declared name or the declared name without its lower-case
letters; optional nodes may be present or omitted. -/
inductive MatchesDeclared : List (Bytes × Bool) → List Bytes → Prop where
  | nil : MatchesDeclared [] []
  | node (n : Bytes × Bool) {ns : List (Bytes × Bool)} (x : Bytes) {xs : List Bytes} :
      (eqIgnoreAsciiCase n.1 x = true ∨ eqIgnoreAsciiCase (dropLower n.1) x = true) →
      MatchesDeclared ns xs → MatchesDeclared (n :: ns) (x :: xs)
  | skip (n : Bytes × Bool) {ns : List (Bytes × Bool)} {xs : List Bytes} :
      n.2 = true → MatchesDeclared ns xs → MatchesDeclared (n :: ns) xs

/-- The acceptance rule on the declaration text: matching the parsed parts
(`HeaderMatches`, the rule of `invokes_iff` in C01Macro.lean) is matching the declared nodes. -/
theorem header_matches_declared (nodes : List (Bytes × Bool)) (xs : List Bytes) :
    HeaderMatches (nodes.map partOfNode) xs ↔ MatchesDeclared nodes xs := by
  have hm (n : Bytes × Bool) (x : Bytes) :
      (eqIgnoreAsciiCase (partOfNode n).long x = true ∨
          eqIgnoreAsciiCase (partOfNode n).short x = true) ↔
        (eqIgnoreAsciiCase n.1 x = true ∨ eqIgnoreAsciiCase (dropLower n.1) x = true) := by
    rw [partOfNode, long_matches_declared]
  induction nodes generalizing xs with
  | nil =>
    constructor
    · rintro ⟨⟩
      exact .nil
    · rintro ⟨⟩
      exact .nil
  | cons n ns ih =>
    rw [List.map_cons]
    constructor
    · intro h
      cases h with
      | node _ x h1 h2 => exact .node n x ((hm n x).1 h1) ((ih _).1 h2)
      | skip _ ho h2 => exact .skip n ho ((ih _).1 h2)
    · intro h
      cases h with
      | node _ x h1 h2 => exact .node _ x ((hm n x).2 h1) ((ih _).2 h2)
      | skip _ ho h2 => exact .skip _ ho ((ih _).2 h2)

/-- C01, from the declaration texts to the handler: in the tree compiled from the
declaration texts `ss`, the header with mnemonics `xs` and query mark `q` reaches
handler `i` iff declaration text `i` ends with `?` exactly when `q`, and every mnemonic
equals, ignoring ASCII case, the declared spelling of the corresponding node or that
spelling with its lower-case letters removed, optional (`[…]`) nodes being present or
omitted. -/
theorem invokes_iff_declared (ss : List Bytes) (t : Node)
    (h : insertAll emptyNode (ss.map declCommand) 0 = .ok t) (xs : List Bytes) (q : Bool) (i : Nat) :
    (childWalk t xs).bind (slot q) = some i ↔
      ∃ s, ss[i]? = some s ∧ (declValue s).2 = q ∧ MatchesDeclared (declNodes (declValue s).1) xs := by
  rw [invokes_iff_parsed (cmds := ss.map declCommand) ?_ h xs q i]
  · simp only [List.getElem?_map, Option.map_eq_some_iff, ← header_matches_declared]
    constructor
    · rintro ⟨_, ⟨s, hs, rfl⟩, hq, hm⟩
      exact ⟨s, hs, hq, hm⟩
    · rintro ⟨s, hs, hq, hm⟩
      exact ⟨_, ⟨s, hs, rfl⟩, hq, hm⟩
  · intro c hc
    obtain ⟨s, _, rfl⟩ := List.mem_map.1 hc
    exact ⟨s, declaration_parse_spec s⟩

/-- `SYSTem:ERRor:[NEXT]?` — a query; `NEXT` optional. -/
example : Command.parse (C14.b "SYSTem:ERRor:[NEXT]?") =
      .ok ⟨[⟨false, C14.b "SYST", C14.b "SYSTEM"⟩, ⟨false, C14.b "ERR", C14.b "ERROR"⟩,
            ⟨true, C14.b "NEXT", C14.b "NEXT"⟩], true⟩ ∧
    declValue (C14.b "SYSTem:ERRor:[NEXT]?") = (C14.b "SYSTem:ERRor:[NEXT]", true) ∧
    declNodes (C14.b "SYSTem:ERRor:[NEXT]") =
      [(C14.b "SYSTem", false), (C14.b "ERRor", false), (C14.b "NEXT", true)] := by
  refine ⟨C14.parse_systErrNext, ?_⟩
  repeat rewrite [C14.b_ofList]
  decide +kernel

/-- ` MEASure : VOLTage ` — white space around the pieces is trimmed. -/
example : Command.parse (C14.b " MEASure : VOLTage ") =
      .ok ⟨[⟨false, C14.b "MEAS", C14.b "MEASURE"⟩, ⟨false, C14.b "VOLT", C14.b "VOLTAGE"⟩], false⟩ ∧
    splitColon (C14.b " MEASure : VOLTage ") [] = [C14.b " MEASure ", C14.b " VOLTage "] ∧
    declNodes (C14.b " MEASure : VOLTage ") = [(C14.b "MEASure", false), (C14.b "VOLTage", false)] := by
  repeat rewrite [C14.b_ofList]
  decide +kernel

/-- `aBc:D_1e` — the short form keeps exactly the bytes that are not lower-case letters,
wherever they are. -/
example : Command.parse (C14.b "aBc:D_1e") =
    .ok ⟨[⟨false, C14.b "B", C14.b "ABC"⟩, ⟨false, C14.b "D_1", C14.b "D_1E"⟩], false⟩ := by
  repeat rewrite [C14.b_ofList]
  decide +kernel

/-- `OUTPut2` — digits belong to both forms. -/
example : Command.parse (C14.b "OUTPut2") =
    .ok ⟨[⟨false, C14.b "OUTP2", C14.b "OUTPUT2"⟩], false⟩ := by
  repeat rewrite [C14.b_ofList]
  decide +kernel

/-- Blank pieces are skipped: `:A::b:` declares the two nodes `A` and `b` (whose short
form is empty). -/
example : Command.parse (C14.b ":A::b:") =
    .ok ⟨[⟨false, C14.b "A", C14.b "A"⟩, ⟨false, [], C14.b "B"⟩], false⟩ := by
  repeat rewrite [C14.b_ofList]
  decide +kernel

/-- Matching on the text: `outp2` and `Output2` match the node `OUTPut2`;
`OUTPU2` and `OUTP` do not. -/
example : MatchesDeclared [(C14.b "OUTPut2", false)] [C14.b "outp2"] ∧
    MatchesDeclared [(C14.b "OUTPut2", false)] [C14.b "Output2"] ∧
    ¬ MatchesDeclared [(C14.b "OUTPut2", false)] [C14.b "OUTPU2"] ∧
    ¬ MatchesDeclared [(C14.b "OUTPut2", false)] [C14.b "OUTP"] := by
  simp only [← header_matches_declared]
  repeat rewrite [C14.b_ofList]
  decide +kernel

/-- The hypotheses of `invokes_iff_declared` for the two error-queue declarations. -/
example : ∃ t, insertAll emptyNode
    ([C14.b "SYSTem:ERRor:[NEXT]?", C14.b "SYSTem:ERRor:COUNt?"].map declCommand) 0 = .ok t := by
  have h (s : Bytes) : Command.parse s = .ok (declCommand s) := declaration_parse_spec s
  rw [List.map_cons, List.map_cons, List.map_nil,
    Except.ok.inj ((h _).symm.trans C14.parse_systErrNext_bytes),
    Except.ok.inj ((h _).symm.trans C14.parse_systErrCount_bytes)]
  exact (C14.compiles_iff_pairwise _).2 (by decide +kernel)

end C01
end Scpi
