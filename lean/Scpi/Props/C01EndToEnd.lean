/-
C01, end to end — "… a program header invokes a handler if and only if each of its
mnemonics equals, ignoring ASCII case, the short form (…) or the long form (…) of the
corresponding declared node, with optional nodes present or omitted and the query mark
matching the declaration; every such spelling invokes the same handler exactly once. Any
other header - … - invokes nothing and reports exactly one 'Undefined header' (-113) error.
The standard SYSTem:VERSion?, SYSTem:ERRor[:NEXT]? and SYSTem:ERRor:COUNt? commands exist
exactly when they were requested in the attribute."

`Scpi/Props/C01Macro.lean` proves the statement for the tree the macro emits and the
walk `childWalk` (`invokes_iff`); `Scpi.C01.dispatch_header` (Scpi/Props/RunRenderCor.lean)
says that `run`, on every rendering of a header-only unit, walks the mnemonics with
`childWalk` from the root and executes the unit on the node reached.  This file puts
the two together (through `Scpi.E2E.run_header`, `events_header`):

  bytes of a message ──dispatch_header──▶ `childWalk` on the compiled tree
  ──invokes_iff──▶ declaration `i` ──execute──▶ `executeCommand I i []`.

Setting: `cmds` are the declarations (lower-case-free parts, e.g. parsed ones), `t` the
tree `insertAll emptyNode cmds 0` compiles, `I` ANY interface whose root is `t`
(arbitrary user state, handlers, error handler).  The message is one parameterless
unit with compound header `[:]n₁:n₂:…[?]` (`hdrUnit a ns q`), rendered with any
white space the syntax allows (`ℓ : Lex`) and terminated by newline.

`header_dispatch` and `header_undefined` are the two halves of the first sentence
(`defined_or_undefined`: every header falls under one of them), `header_dispatch_iff` and
`header_invokes_once` read "invokes … exactly once" off the trace, `spelled_unique` is
"the same handler", and `std_commands_iff` is the last sentence.
-/
import Scpi.Proofs.E2EHeader
import Scpi.Props.C01Macro
import Scpi.Props.C06

namespace Scpi
namespace C01

open E2E C14

/-- The header with mnemonics `ns` and query mark `q` spells declaration `i`: the
declaration has kind `q` and every mnemonic equals, ignoring ASCII case, the short or
the long form of the corresponding declared node, optional nodes present or omitted. -/
def SpelledBy (cmds : List Command) (i : Nat) (ns : List Bytes) (q : Bool) : Prop :=
  ∃ c, cmds[i]? = some c ∧ c.query = q ∧ HeaderMatches c.parts ns

/-- Some declaration is spelled by the header: the header is defined. -/
def Defined (cmds : List Command) (ns : List Bytes) (q : Bool) : Prop :=
  ∃ i, SpelledBy cmds i ns q

theorem not_defined_iff (cmds : List Command) (ns : List Bytes) (q : Bool) :
    ¬ Defined cmds ns q ↔ ∀ c ∈ cmds, c.query = q → ¬ HeaderMatches c.parts ns := by
  constructor
  · intro h c hc hq hm
    obtain ⟨i, hi⟩ := List.getElem?_of_mem hc
    exact h ⟨i, c, hi, hq, hm⟩
  · rintro h ⟨i, c, hc, hq, hm⟩
    exact h c (List.mem_of_getElem? hc) hq hm

section
variable {σ : Type} (I : Iface σ) {cmds : List Command} {t : Node}

/-- The slot `resolve` reaches from the root is `some i` iff the header spells
declaration `i` (`resolve_node` ∘ `invokes_iff`). -/
theorem resolve_slot_iff (hcmds : ∀ c ∈ cmds, PartsLowerFree c)
    (ht : insertAll emptyNode cmds 0 = .ok t) (a : Bool) (ns : List Bytes) (q : Bool) (hne : ns ≠ [])
    (i : Nat) :
    (resolve t t (.compound a ns)).bind (fun nh => slot q nh.1) = some i ↔ SpelledBy cmds i ns q := by
  have h := C11.resolve_node t t a ns hne
  rw [ite_self] at h
  refine Iff.trans ?_ (invokes_iff hcmds ht ns q i)
  rw [← h]
  cases resolve t t (.compound a ns) <;> exact Iff.rfl

/-- **A header spells at most one declaration** (of the tree that compiled): "every
such spelling invokes the same handler". -/
theorem spelled_unique (hcmds : ∀ c ∈ cmds, PartsLowerFree c)
    (ht : insertAll emptyNode cmds 0 = .ok t) (ns : List Bytes) (q : Bool) (i j : Nat)
    (hi : SpelledBy cmds i ns q) (hj : SpelledBy cmds j ns q) : i = j := by
  have h1 := (invokes_iff hcmds ht ns q i).2 hi
  have h2 := (invokes_iff hcmds ht ns q j).2 hj
  rw [h1] at h2
  exact Option.some.inj h2

/-- If the header spells declaration `i`, then `run` on the
message — any letter case, short or long forms, optional nodes in or out, leading
colon or not, any permitted white space — does exactly what the generated
`execute_command` does for command id `i` with no parameters (`execId`: handler,
response, and for a query the newline and the flush), reports the error of that
execution if there is one (`reportExec`), consumes the whole message and leaves the
path at the root.  The right-hand side does not depend on the spelling. -/
theorem header_dispatch (hcmds : ∀ c ∈ cmds, PartsLowerFree c)
    (ht : insertAll emptyNode cmds 0 = .ok t) (hroot : I.root = t)
    (a : Bool) (ns : List Bytes) (q : Bool) (ℓ : Lex) (w : Writer) (s : σ)
    (hu : (hdrUnit a ns q).wf = true) (hℓ : ℓ.wf = true)
    (i : Nat) (hs : SpelledBy cmds i ns q) :
    run I (render (hdrUnit a ns q) ℓ .nl) w s =
      { rest := [], header := I.root, w := (execId I i q w s).2.1,
        s := reportExec I (execId I i q w s).1 (execId I i q w s).2.2 } := by
  subst hroot
  rw [run_header I a ns q ℓ w s hu hℓ, (invokes_iff hcmds ht ns q i).2 hs]
  rfl

/-- If the header spells no declaration (of its kind), then
no handler is invoked, nothing is written (the writer is untouched), the user state
changes by exactly one `onError (UndefinedHeader)`, the message is consumed; the trace
is that single error report, and the error log of C06 is `[UndefinedHeader]` (−113,
`Scpi.C09.undefined_header_is_113`). -/
theorem header_undefined (hcmds : ∀ c ∈ cmds, PartsLowerFree c)
    (ht : insertAll emptyNode cmds 0 = .ok t) (hroot : I.root = t)
    (a : Bool) (ns : List Bytes) (q : Bool) (ℓ : Lex) (w : Writer) (s : σ)
    (hu : (hdrUnit a ns q).wf = true) (hℓ : ℓ.wf = true)
    (hno : ∀ c ∈ cmds, c.query = q → ¬ HeaderMatches c.parts ns) :
    run I (render (hdrUnit a ns q) ℓ .nl) w s =
      { rest := [], header := I.root, w := w, s := I.onError s (.std .UndefinedHeader) } ∧
    eventsOf I I.root (render (hdrUnit a ns q) ℓ .nl) w s = [Ev.error (.std .UndefinedHeader)] ∧
    (run I.logged (render (hdrUnit a ns q) ℓ .nl) w (s, [])).s.2 = [.std .UndefinedHeader] := by
  -- the same fact about three interfaces on the tree: `I`, `I.traced`, `I.logged`
  subst hroot
  have hslot := no_match_no_handler hcmds ht ns q hno
  refine ⟨?_, ?_, ?_⟩
  · rw [run_header I a ns q ℓ w s hu hℓ, hslot]
    rfl
  · rw [events_header I a ns q ℓ w s hu hℓ, hslot]
  · rw [run_header I.logged a ns q ℓ w (s, []) hu hℓ, show I.logged.root = I.root from rfl, hslot]
    rfl

/-- What the trace of a header-only message can contain as invocation: only the
handler whose declaration the header spells (for ANY interface on the compiled tree). -/
theorem invoked_only_if_spelled (hcmds : ∀ c ∈ cmds, PartsLowerFree c)
    (ht : insertAll emptyNode cmds 0 = .ok t) (hroot : I.root = t)
    (a : Bool) (ns : List Bytes) (q : Bool) (ℓ : Lex) (w : Writer) (s : σ)
    (hu : (hdrUnit a ns q).wf = true) (hℓ : ℓ.wf = true) (i : Nat) (tvs : List TVal)
    (hmem : Ev.call i tvs ∈ eventsOf I I.root (render (hdrUnit a ns q) ℓ .nl) w s) :
    SpelledBy cmds i ns q ∧ tvs = [] := by
  subst hroot
  rw [events_header I a ns q ℓ w s hu hℓ] at hmem
  cases hslot : (childWalk I.root ns).bind (slot q) with
  | none =>
    rw [hslot] at hmem
    cases List.mem_singleton.1 hmem
  | some j =>
    rw [hslot] at hmem
    -- the only `call` event on the right-hand side of `events_header` is that of the slot
    have hcall : Ev.call i tvs = Ev.call j [] := by
      rcases List.mem_append.1 hmem with hmem | hmem
      · split at hmem
        · split at hmem
          · exact List.mem_singleton.1 hmem
          · cases hmem
        · cases hmem
      · split at hmem
        · cases List.mem_singleton.1 hmem
        · cases hmem
    cases hcall
    exact ⟨(invokes_iff hcmds ht ns q i).1 hslot, rfl⟩

/-- If the header spells declaration `i` and handler `i`
takes no parameters, the trace of the run is: the invocation of handler `i` — once —
followed by the error of the execution, if there is one (the handler's own error, or a
failure to write the response).  No other handler appears. -/
theorem header_invokes_once (hcmds : ∀ c ∈ cmds, PartsLowerFree c)
    (ht : insertAll emptyNode cmds 0 = .ok t) (hroot : I.root = t)
    (a : Bool) (ns : List Bytes) (q : Bool) (ℓ : Lex) (w : Writer) (s : σ)
    (hu : (hdrUnit a ns q).wf = true) (hℓ : ℓ.wf = true)
    (i : Nat) (hs : SpelledBy cmds i ns q) (ci : Cmd σ) (hci : I.cmds[i]? = some ci)
    (hty : ci.argTys = []) :
    eventsOf I I.root (render (hdrUnit a ns q) ℓ .nl) w s =
      Ev.call i [] ::
        (match (execId I i q w s).2.2 with
         | .err e => [Ev.error e]
         | _ => []) := by
  subst hroot
  rw [events_header I a ns q ℓ w s hu hℓ, (invokes_iff hcmds ht ns q i).2 hs]
  simp only [hci, hty, if_true, List.singleton_append]
  rfl

/-- For an interface on the compiled tree whose handler
`i` takes no parameters: the run on the message invokes handler `i` iff the header
spells declaration `i` — every mnemonic equal, ignoring ASCII case, to the short or the
long form of the corresponding declared node, optional nodes present or omitted, and
the query mark matching the kind of the declaration.  ("Invokes" is read off the trace
of the tracing wrapper, `Scpi.C09.events_are_the_trace`.) -/
theorem header_dispatch_iff (hcmds : ∀ c ∈ cmds, PartsLowerFree c)
    (ht : insertAll emptyNode cmds 0 = .ok t) (hroot : I.root = t)
    (a : Bool) (ns : List Bytes) (q : Bool) (ℓ : Lex) (w : Writer) (s : σ)
    (hu : (hdrUnit a ns q).wf = true) (hℓ : ℓ.wf = true)
    (i : Nat) (ci : Cmd σ) (hci : I.cmds[i]? = some ci) (hty : ci.argTys = []) :
    Ev.call i [] ∈ eventsOf I I.root (render (hdrUnit a ns q) ℓ .nl) w s ↔ SpelledBy cmds i ns q := by
  constructor
  · intro h
    exact (invoked_only_if_spelled I hcmds ht hroot a ns q ℓ w s hu hℓ i [] h).1
  · intro hs
    rw [header_invokes_once I hcmds ht hroot a ns q ℓ w s hu hℓ i hs ci hci hty]
    exact List.mem_cons_self

/-- The dichotomy, for every header: it spells a declaration (and `header_dispatch`
applies; exactly one on a tree that compiled, `spelled_unique`) or none (and
`header_undefined` applies). -/
theorem defined_or_undefined (cmds : List Command) (ns : List Bytes) (q : Bool) :
    Defined cmds ns q ∨ ∀ c ∈ cmds, c.query = q → ¬ HeaderMatches c.parts ns := by
  by_cases h : Defined cmds ns q
  · exact .inl h
  · exact .inr ((not_defined_iff cmds ns q).1 h)

end

/-! ## The standard commands -/

/-- `SYSTem:VERSion?` as the macro parses it. -/
def versionDecl : Command :=
  ⟨[⟨false, C14.b "SYST", C14.b "SYSTEM"⟩, ⟨false, C14.b "VERS", C14.b "VERSION"⟩], true⟩
/-- `SYSTem:ERRor:[NEXT]?` -/
def errorNextDecl : Command :=
  ⟨[⟨false, C14.b "SYST", C14.b "SYSTEM"⟩, ⟨false, C14.b "ERR", C14.b "ERROR"⟩,
    ⟨true, C14.b "NEXT", C14.b "NEXT"⟩], true⟩
/-- `SYSTem:ERRor:COUNt?` -/
def errorCountDecl : Command :=
  ⟨[⟨false, C14.b "SYST", C14.b "SYSTEM"⟩, ⟨false, C14.b "ERR", C14.b "ERROR"⟩,
    ⟨false, C14.b "COUN", C14.b "COUNT"⟩], true⟩

theorem strBytes_version : strBytes "SYSTem:VERSion?" = C14.b "SYSTem:VERSion?" := by
  rw [C14.b_ofList]
  decide +kernel
theorem strBytes_errorNext : strBytes "SYSTem:ERRor:[NEXT]?" = C14.b "SYSTem:ERRor:[NEXT]?" := by
  rw [C14.b_ofList]
  decide +kernel
theorem strBytes_errorCount : strBytes "SYSTem:ERRor:COUNt?" = C14.b "SYSTem:ERRor:COUNt?" := by
  rw [C14.b_ofList]
  decide +kernel

theorem parse_version : Command.parse (strBytes "SYSTem:VERSion?") = .ok versionDecl := by
  rw [strBytes_version, versionDecl]
  repeat rewrite [C14.b_ofList]
  decide +kernel
theorem parse_errorNext : Command.parse (strBytes "SYSTem:ERRor:[NEXT]?") = .ok errorNextDecl := by
  rw [strBytes_errorNext]
  exact C14.parse_systErrNext
theorem parse_errorCount : Command.parse (strBytes "SYSTem:ERRor:COUNt?") = .ok errorCountDecl := by
  rw [strBytes_errorCount]
  exact C14.parse_systErrCount

/-- The declarations the attribute appends: `SYSTem:VERSion?` iff
`standard_commands` was requested, `SYSTem:ERRor:[NEXT]?` and `SYSTem:ERRor:COUNt?` iff
`error_commands` was — and nothing else. -/
theorem std_decls_iff (std err : Bool) (d : Bytes) :
    d ∈ standardDecls std err ↔
      (d = strBytes "SYSTem:VERSion?" ∧ std = true) ∨
      (d = strBytes "SYSTem:ERRor:[NEXT]?" ∧ err = true) ∨
      (d = strBytes "SYSTem:ERRor:COUNt?" ∧ err = true) := by
  unfold standardDecls
  cases std <;> cases err <;> simp

theorem stdDecls_distinct :
    strBytes "SYSTem:VERSion?" ≠ strBytes "SYSTem:ERRor:[NEXT]?" ∧
    strBytes "SYSTem:VERSion?" ≠ strBytes "SYSTem:ERRor:COUNt?" ∧
    strBytes "SYSTem:ERRor:[NEXT]?" ≠ strBytes "SYSTem:ERRor:COUNt?" := by
  rw [strBytes_version, strBytes_errorNext, strBytes_errorCount]
  repeat rewrite [C14.b_ofList]
  decide +kernel

theorem std_version_mem_iff (std err : Bool) :
    strBytes "SYSTem:VERSion?" ∈ standardDecls std err ↔ std = true := by
  obtain ⟨h1, h2, _⟩ := stdDecls_distinct
  simp only [std_decls_iff, h1, h2, true_and, false_and, or_false]

theorem std_errorNext_mem_iff (std err : Bool) :
    strBytes "SYSTem:ERRor:[NEXT]?" ∈ standardDecls std err ↔ err = true := by
  obtain ⟨h1, _, h3⟩ := stdDecls_distinct
  simp only [std_decls_iff, h1.symm, h3, true_and, false_and, or_false, false_or]

theorem std_errorCount_mem_iff (std err : Bool) :
    strBytes "SYSTem:ERRor:COUNt?" ∈ standardDecls std err ↔ err = true := by
  obtain ⟨_, h2, h3⟩ := stdDecls_distinct
  simp only [std_decls_iff, h2.symm, h3.symm, true_and, false_and, false_or]

/-- Two declarations of the same kind that do not collide (no common spelling,
`Scpi.C14.Collide`) are never spelled by the same header. -/
theorem no_common_header {c c' : Command} (hc : PartsLowerFree c) (hc' : PartsLowerFree c')
    (hq : c.query = c'.query) (hn : ¬ Collide c c') (ns : List Bytes)
    (h : HeaderMatches c.parts ns) (h' : HeaderMatches c'.parts ns) : False :=
  hn ⟨hq, upperPath ns, (headerMatches_iff_expands hc ns).1 h,
    (headerMatches_iff_expands hc' ns).1 h'⟩

section
variable {user : List Bytes} {std err : Bool} {cmds : List Command}

/-- A header is defined iff one of the declaration strings — the user's or the
appended standard ones — parses to a declaration it spells. -/
theorem defined_iff_decl
    (hparse : (user ++ standardDecls std err).map Command.parse = cmds.map Except.ok)
    (ns : List Bytes) (q : Bool) :
    Defined cmds ns q ↔
      ∃ d ∈ user ++ standardDecls std err, ∃ c, Command.parse d = .ok c ∧ c.query = q ∧
        HeaderMatches c.parts ns := by
  -- `hparse` by membership: the declarations are what the strings parse to
  have hmem (c : Command) :
      c ∈ cmds ↔ ∃ d ∈ user ++ standardDecls std err, Command.parse d = .ok c := by
    rw [← List.mem_map, hparse, List.mem_map]
    exact ⟨fun h => ⟨c, h, rfl⟩, fun ⟨_, h, e⟩ => Except.ok.inj e ▸ h⟩
  constructor
  · rintro ⟨i, c, hc, hq, hm⟩
    obtain ⟨d, hd, hp⟩ := (hmem c).1 (List.mem_of_getElem? hc)
    exact ⟨d, hd, c, hp, hq, hm⟩
  · rintro ⟨d, hd, c, hp, hq, hm⟩
    obtain ⟨i, hi⟩ := List.getElem?_of_mem ((hmem c).2 ⟨d, hd, hp⟩)
    exact ⟨i, c, hi, hq, hm⟩

/-- Which query headers are defined, given that no user declaration spells the header:
exactly those spelled by a standard declaration that was requested. -/
theorem defined_std_iff
    (hparse : (user ++ standardDecls std err).map Command.parse = cmds.map Except.ok)
    (ns : List Bytes)
    (huser : ∀ d ∈ user, ∀ c, Command.parse d = .ok c → c.query = true → ¬ HeaderMatches c.parts ns) :
    Defined cmds ns true ↔
      (std = true ∧ HeaderMatches versionDecl.parts ns) ∨
      (err = true ∧ HeaderMatches errorNextDecl.parts ns) ∨
      (err = true ∧ HeaderMatches errorCountDecl.parts ns) := by
  have hq : versionDecl.query = true ∧ errorNextDecl.query = true ∧ errorCountDecl.query = true :=
    ⟨rfl, rfl, rfl⟩
  have hu : ¬ ∃ d ∈ user, ∃ c, Command.parse d = .ok c ∧ c.query = true ∧
      HeaderMatches c.parts ns :=
    fun ⟨d, hd, c, hp, hq, hm⟩ => huser d hd c hp hq hm
  -- no user declaration; the standard ones enumerated, each with its parse
  simp only [defined_iff_decl hparse, List.mem_append, or_and_right, exists_or, hu, false_or,
    std_decls_iff, and_assoc, exists_eq_left, parse_version, parse_errorNext, parse_errorCount,
    Except.ok.injEq, exists_eq_left', hq, true_and]

theorem versionDecl_lowerFree : PartsLowerFree versionDecl := by
  rw [versionDecl]
  repeat rewrite [C14.b_ofList]
  decide +kernel
theorem errorNextDecl_lowerFree : PartsLowerFree errorNextDecl := by
  rw [errorNextDecl]
  repeat rewrite [C14.b_ofList]
  decide +kernel
theorem errorCountDecl_lowerFree : PartsLowerFree errorCountDecl := by
  rw [errorCountDecl]
  repeat rewrite [C14.b_ofList]
  decide +kernel

/-- No header spells both `SYSTem:VERSion?` and one of the error-queue queries. -/
theorem version_not_error (ns : List Bytes) (hv : HeaderMatches versionDecl.parts ns) :
    ¬ HeaderMatches errorNextDecl.parts ns ∧ ¬ HeaderMatches errorCountDecl.parts ns := by
  have h : ¬ Collide versionDecl errorNextDecl ∧ ¬ Collide versionDecl errorCountDecl := by
    rw [versionDecl, errorNextDecl, errorCountDecl]
    repeat rewrite [C14.b_ofList]
    decide +kernel
  exact ⟨no_common_header versionDecl_lowerFree errorNextDecl_lowerFree rfl h.1 ns hv,
    no_common_header versionDecl_lowerFree errorCountDecl_lowerFree rfl h.2 ns hv⟩

/-- **`SYSTem:VERSion?` exists iff `standard_commands` was requested**: any header that
spells it (`SYST:VERS?`, `system:version?`, …), provided no user declaration spells the
same header, is defined iff `std`. -/
theorem std_version_defined_iff
    (hparse : (user ++ standardDecls std err).map Command.parse = cmds.map Except.ok)
    (ns : List Bytes) (hm : HeaderMatches versionDecl.parts ns)
    (huser : ∀ d ∈ user, ∀ c, Command.parse d = .ok c → c.query = true → ¬ HeaderMatches c.parts ns) :
    Defined cmds ns true ↔ std = true := by
  rw [defined_std_iff hparse ns huser]
  simp only [hm, version_not_error ns hm, and_true, and_false, or_false]

/-- **`SYSTem:ERRor[:NEXT]?` exists iff `error_commands` was requested.** -/
theorem std_error_next_defined_iff
    (hparse : (user ++ standardDecls std err).map Command.parse = cmds.map Except.ok)
    (ns : List Bytes) (hm : HeaderMatches errorNextDecl.parts ns)
    (huser : ∀ d ∈ user, ∀ c, Command.parse d = .ok c → c.query = true → ¬ HeaderMatches c.parts ns) :
    Defined cmds ns true ↔ err = true := by
  have hv : ¬ HeaderMatches versionDecl.parts ns := fun hv => (version_not_error ns hv).1 hm
  rw [defined_std_iff hparse ns huser]
  simp only [hm, hv, and_true, and_false, false_or]
  exact or_iff_left_of_imp And.left

/-- **`SYSTem:ERRor:COUNt?` exists iff `error_commands` was requested.** -/
theorem std_error_count_defined_iff
    (hparse : (user ++ standardDecls std err).map Command.parse = cmds.map Except.ok)
    (ns : List Bytes) (hm : HeaderMatches errorCountDecl.parts ns)
    (huser : ∀ d ∈ user, ∀ c, Command.parse d = .ok c → c.query = true → ¬ HeaderMatches c.parts ns) :
    Defined cmds ns true ↔ err = true := by
  have hv : ¬ HeaderMatches versionDecl.parts ns := fun hv => (version_not_error ns hv).2 hm
  rw [defined_std_iff hparse ns huser]
  simp only [hm, hv, and_true, and_false, false_or]
  exact or_iff_right_of_imp And.left

/-- The four headers of the property text: `SYST:VERS?` is
defined iff `standard_commands` was requested; `SYST:ERR?`, `SYST:ERR:NEXT?` and
`SYST:ERR:COUN?` iff `error_commands` was — provided no user declaration spells them.
With `header_dispatch` / `header_undefined`: when requested, `run` executes the command
whose id is the position of the standard declaration (where the macro registers the
standard handler, lib.rs:197-223; the handler table itself is a parameter here); when not,
it reports one −113 and does nothing else. -/
theorem std_commands_iff
    (hparse : (user ++ standardDecls std err).map Command.parse = cmds.map Except.ok)
    (huser : ∀ ns ∈ [[C14.b "SYST", C14.b "VERS"], [C14.b "SYST", C14.b "ERR"],
        [C14.b "SYST", C14.b "ERR", C14.b "NEXT"], [C14.b "SYST", C14.b "ERR", C14.b "COUN"]],
      ∀ d ∈ user, ∀ c, Command.parse d = .ok c → c.query = true → ¬ HeaderMatches c.parts ns) :
    (Defined cmds [C14.b "SYST", C14.b "VERS"] true ↔ std = true) ∧
    (Defined cmds [C14.b "SYST", C14.b "ERR"] true ↔ err = true) ∧
    (Defined cmds [C14.b "SYST", C14.b "ERR", C14.b "NEXT"] true ↔ err = true) ∧
    (Defined cmds [C14.b "SYST", C14.b "ERR", C14.b "COUN"] true ↔ err = true) := by
  have hm : HeaderMatches versionDecl.parts [C14.b "SYST", C14.b "VERS"] ∧
      HeaderMatches errorNextDecl.parts [C14.b "SYST", C14.b "ERR"] ∧
      HeaderMatches errorNextDecl.parts [C14.b "SYST", C14.b "ERR", C14.b "NEXT"] ∧
      HeaderMatches errorCountDecl.parts [C14.b "SYST", C14.b "ERR", C14.b "COUN"] := by
    rw [versionDecl, errorNextDecl, errorCountDecl]
    repeat rewrite [C14.b_ofList]
    decide +kernel
  exact ⟨std_version_defined_iff hparse _ hm.1 (huser _ (.head _)),
    std_error_next_defined_iff hparse _ hm.2.1 (huser _ (.tail _ (.head _))),
    std_error_next_defined_iff hparse _ hm.2.2.1 (huser _ (.tail _ (.tail _ (.head _)))),
    std_error_count_defined_iff hparse _ hm.2.2.2 (huser _ (.tail _ (.tail _ (.tail _ (.head _)))))⟩

end

/-! ## Non-vacuity -/

namespace HDemo

/-- `SYSTem:ERRor:[NEXT]?`, `SYSTem:ERRor:COUNt?`, `X`. -/
def decls : List Command := C14.decls ["SYSTem:ERRor:[NEXT]?", "SYSTem:ERRor:COUNt?", "X"]

theorem decls_eq :
    decls = [errorNextDecl, errorCountDecl, ⟨[⟨false, C14.b "X", C14.b "X"⟩], false⟩] := by
  have hX : Command.parse (C14.b "X") = .ok ⟨[⟨false, C14.b "X", C14.b "X"⟩], false⟩ := by
    decide +kernel
  rw [decls, C14.decls_cons_ok C14.parse_systErrNext, C14.decls_cons_ok C14.parse_systErrCount,
    C14.decls_cons_ok hX]
  rfl

theorem decls_lowerFree : ∀ c ∈ decls, PartsLowerFree c :=
  C14.decls_lowerFree _

theorem decls_compile : ∃ t, insertAll emptyNode decls 0 = .ok t := by
  rw [decls, C14.decls_cons_ok C14.parse_systErrNext_bytes,
    C14.decls_cons_ok C14.parse_systErrCount_bytes, C14.decls_cons]
  exact (compiles_iff_pairwise _).2 (by decide +kernel)

/-- No white space at all. -/
def lex0 : Lex := { lead := [], sep := [], commas := [], trail := [] }
/-- Blanks before the unit, CR before the newline. -/
def lex1 : Lex := { lead := [32, 9], sep := [], commas := [], trail := [32, 13] }

/-- The messages of the examples are renderings of header-only units. -/
theorem messages :
    render (hdrUnit false [C14.b "syst", C14.b "err"] true) lex0 .nl = C14.b "syst:err?\n" ∧
    render (hdrUnit false [C14.b "SYSTEM", C14.b "ERROR", C14.b "NEXT"] true) lex0 .nl =
      C14.b "SYSTEM:ERROR:NEXT?\n" ∧
    render (hdrUnit true [C14.b "SYSTEM", C14.b "ERROR", C14.b "NEXT"] true) lex1 .nl =
      C14.b " \t:SYSTEM:ERROR:NEXT? \r\n" ∧
    render (hdrUnit false [C14.b "SYST", C14.b "ERRO"] true) lex0 .nl = C14.b "SYST:ERRO?\n" ∧
    render (hdrUnit false [C14.b "X"] true) lex0 .nl = C14.b "X?\n" := by
  refine ⟨?_, ?_, ?_, ?_, ?_⟩
  all_goals
    repeat rewrite [C14.b_ofList]
    decide +kernel

example : render (hdrUnit false [C14.b "syst", C14.b "err"] true) lex0 .nl = C14.b "syst:err?\n" :=
  messages.1
example : render (hdrUnit false [C14.b "SYSTEM", C14.b "ERROR", C14.b "NEXT"] true) lex0 .nl =
    C14.b "SYSTEM:ERROR:NEXT?\n" :=
  messages.2.1
example : render (hdrUnit true [C14.b "SYSTEM", C14.b "ERROR", C14.b "NEXT"] true) lex1 .nl =
    C14.b " \t:SYSTEM:ERROR:NEXT? \r\n" :=
  messages.2.2.1
example : render (hdrUnit false [C14.b "SYST", C14.b "ERRO"] true) lex0 .nl = C14.b "SYST:ERRO?\n" :=
  messages.2.2.2.1
example : render (hdrUnit false [C14.b "X"] true) lex0 .nl = C14.b "X?\n" :=
  messages.2.2.2.2

/-- For EVERY interface on the tree compiled from the three declarations: `syst:err?⏎`,
`SYSTEM:ERROR:NEXT?⏎` and ` ⇥:SYSTEM:ERROR:NEXT? ␍⏎` are all dispatched to command 0
— the three runs are the same function of writer and state. -/
example {σ : Type} (I : Iface σ) (t : Node) (ht : insertAll emptyNode decls 0 = .ok t)
    (hroot : I.root = t) (w : Writer) (s : σ) :
    run I (C14.b "syst:err?\n") w s =
      { rest := [], header := I.root, w := (execId I 0 true w s).2.1,
        s := reportExec I (execId I 0 true w s).1 (execId I 0 true w s).2.2 } ∧
    run I (C14.b "SYSTEM:ERROR:NEXT?\n") w s = run I (C14.b "syst:err?\n") w s ∧
    run I (C14.b " \t:SYSTEM:ERROR:NEXT? \r\n") w s = run I (C14.b "syst:err?\n") w s := by
  -- the messages are renderings of header-only units, well-formed ones, that spell declaration 0
  have hwf : (hdrUnit false [C14.b "syst", C14.b "err"] true).wf = true ∧
      (hdrUnit false [C14.b "SYSTEM", C14.b "ERROR", C14.b "NEXT"] true).wf = true ∧
      (hdrUnit true [C14.b "SYSTEM", C14.b "ERROR", C14.b "NEXT"] true).wf = true := by
    repeat rewrite [C14.b_ofList]
    decide +kernel
  have hm : HeaderMatches errorNextDecl.parts [C14.b "syst", C14.b "err"] ∧
      HeaderMatches errorNextDecl.parts [C14.b "SYSTEM", C14.b "ERROR", C14.b "NEXT"] := by
    rw [errorNextDecl]
    repeat rewrite [C14.b_ofList]
    decide +kernel
  have hlf := decls_lowerFree
  rw [decls_eq] at ht hlf
  rw [← messages.1, ← messages.2.1, ← messages.2.2.1,
    header_dispatch I hlf ht hroot false _ true lex0 w s hwf.1 rfl 0 ⟨_, rfl, rfl, hm.1⟩,
    header_dispatch I hlf ht hroot false _ true lex0 w s hwf.2.1 rfl 0 ⟨_, rfl, rfl, hm.2⟩,
    header_dispatch I hlf ht hroot true _ true lex1 w s hwf.2.2 rfl 0 ⟨_, rfl, rfl, hm.2⟩]
  exact ⟨rfl, rfl, rfl⟩

/-- `SYST:ERRO?⏎` (between the short and the long form) and `X?⏎` (query mark on a
command-only node) invoke nothing, write nothing, and report exactly one −113. -/
example {σ : Type} (I : Iface σ) (t : Node) (ht : insertAll emptyNode decls 0 = .ok t)
    (hroot : I.root = t) (w : Writer) (s : σ) :
    (run I (C14.b "SYST:ERRO?\n") w s =
        { rest := [], header := I.root, w := w, s := I.onError s (.std .UndefinedHeader) } ∧
      eventsOf I I.root (C14.b "SYST:ERRO?\n") w s = [Ev.error (.std .UndefinedHeader)] ∧
      (run I.logged (C14.b "SYST:ERRO?\n") w (s, [])).s.2 = [.std .UndefinedHeader]) ∧
    (run I (C14.b "X?\n") w s =
        { rest := [], header := I.root, w := w, s := I.onError s (.std .UndefinedHeader) } ∧
      eventsOf I I.root (C14.b "X?\n") w s = [Ev.error (.std .UndefinedHeader)] ∧
      (run I.logged (C14.b "X?\n") w (s, [])).s.2 = [.std .UndefinedHeader]) := by
  have hwf : (hdrUnit false [C14.b "SYST", C14.b "ERRO"] true).wf = true ∧
      (hdrUnit false [C14.b "X"] true).wf = true := by
    repeat rewrite [C14.b_ofList]
    decide +kernel
  have hno : (∀ c ∈ decls, c.query = true → ¬ HeaderMatches c.parts [C14.b "SYST", C14.b "ERRO"]) ∧
      ∀ c ∈ decls, c.query = true → ¬ HeaderMatches c.parts [C14.b "X"] := by
    rw [decls, C14.decls_cons_ok C14.parse_systErrNext_bytes,
      C14.decls_cons_ok C14.parse_systErrCount_bytes, C14.decls_cons]
    repeat rewrite [C14.b_ofList]
    decide +kernel
  rw [← messages.2.2.2.1, ← messages.2.2.2.2]
  exact ⟨header_undefined I decls_lowerFree ht hroot false _ true lex0 w s hwf.1 rfl hno.1,
    header_undefined I decls_lowerFree ht hroot false _ true lex0 w s hwf.2 rfl hno.2⟩

/-- `x` (no query mark) spells declaration 2. -/
example : SpelledBy decls 2 [C14.b "x"] false := by
  refine ⟨⟨[⟨false, C14.b "X", C14.b "X"⟩], false⟩, by rw [decls_eq]; rfl, rfl, ?_⟩
  repeat rewrite [C14.b_ofList]
  decide +kernel

/-- The hypotheses of `std_commands_iff` are satisfiable: user declaration `X`, both
attribute flags set; the resulting declaration list is `X`, `SYSTem:VERSion?`,
`SYSTem:ERRor:[NEXT]?`, `SYSTem:ERRor:COUNt?`. -/
example :
    ([C14.b "X"] ++ standardDecls true true).map Command.parse =
      ([⟨[⟨false, C14.b "X", C14.b "X"⟩], false⟩, versionDecl, errorNextDecl, errorCountDecl] :
        List Command).map Except.ok := by
  simp only [standardDecls, if_true, List.cons_append, List.nil_append, List.map_cons, List.map_nil,
    parse_version, parse_errorNext, parse_errorCount]
  rfl

example : ∀ ns ∈ [[C14.b "SYST", C14.b "VERS"], [C14.b "SYST", C14.b "ERR"],
      [C14.b "SYST", C14.b "ERR", C14.b "NEXT"], [C14.b "SYST", C14.b "ERR", C14.b "COUN"]],
    ∀ d ∈ [C14.b "X"], ∀ c, Command.parse d = .ok c → c.query = true → ¬ HeaderMatches c.parts ns := by
  intro ns _ d hd c hp hq
  simp only [List.mem_singleton] at hd
  subst hd
  have : Command.parse (C14.b "X") = .ok ⟨[⟨false, C14.b "X", C14.b "X"⟩], false⟩ := by
    decide +kernel
  rw [this] at hp
  cases hp
  cases hq

end HDemo

end C01
end Scpi
