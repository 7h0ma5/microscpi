/-
C08, streaming half — "The payload of a quoted string or definite-length block may
contain … newline - and is delivered verbatim, never interpreted as a separator or
terminator, whether the message is given to run whole or streamed through process in
any chunking.  In particular a newline inside a payload neither ends the message nor
produces an error, and all units of that message execute exactly as they would without
the embedded newline."

What `process` does at a newline: it hands everything received since the last completely
interpreted unit to `run_from`, with a fresh `N`-byte response buffer.  If the newline
lies inside a string or block payload, the unit under the cursor is `incomplete`:
`run_from` stops there and returns the unfinished unit and the header path reached;
`process` keeps both and calls `run_from` again at the next newline.  Stopping and
continuing like this is one `run_from` over all the bytes (T8.2: `runFrom_resume`,
`runFrom_split`).  So a message with newlines inside payloads, streamed byte by byte through
the machine of `Scpi/Spec/Stream.lean`, ends where `run` ends when given the message whole
(T8.3: `stream_payload_newline`, `stream_payload_messages`), and with
`C07.process_refines_stream` so does `Interface::process::<N, _>` under EVERY fault-free
chunking of the stream (`process_payload_newline`, `process_payload_messages`): the same
handlers with the same parameters and the same errors, in order
(`process_payload_newline_traced`).

ASSUMPTIONS of T8.3, all stated as hypotheses:
* the message fits in the command buffer (`m.length ≤ n`; a longer unfinished message
  is discarded by `process`, see `C06.stream_overflow_isolation`);
* `run` consumes it entirely (`rest = []`: it is complete);
* the response `run` writes for the whole message is at most `n` bytes.  `process` uses a
  fresh `n`-byte response buffer per newline while `run` is given one writer for the
  whole message, so the comparison is with `run` on an UNBOUNDED writer, and no response
  buffer may overflow; the bound on the whole response is a simple sufficient condition
  (`exQ_response_bound_needed` shows that some bound is needed).  Under this bound `run`
  with an `n`-byte buffer does the same as with the unbounded writer
  (`run_bounded_eq_unbounded`), so the comparison holds for that run as well.

All theorems hold for every interface: every tree, all handlers, every error handler.
-/
import Scpi.Proofs.StreamOneRun
import Scpi.Props.C07

namespace Scpi
namespace C08

/-! ## T8.2 — resuming `run_from` -/

/-- **T8.2 (resumption).**  Let `x` end with a newline and let `run_from` stop on it with a
non-empty rest — it cannot crash (`runFrom_good`), so it stopped because the unit under
the cursor is unfinished: the final newline of `x` lies inside a string or block payload.
Then for every continuation `y`, running on `x ++ y` is running on `rest ++ y` from the
header path, writer and user state returned for `x`.  (Every unit before the unfinished
one got a final verdict — accepted, or rejected on an input that ends with a newline — so
by parser finality, C12, it is treated the same when `y` follows.) -/
theorem runFrom_resume {σ : Type} (I : Iface σ) (h : Node) (x : Bytes) (w : Writer) (s : σ)
    (hx : x.getLast? = some 10) (hrest : (runFrom I h x w s).rest ≠ []) (y : Bytes) :
    runFrom I h (x ++ y) w s =
      runFrom I (runFrom I h x w s).header ((runFrom I h x w s).rest ++ y)
        (runFrom I h x w s).w (runFrom I h x w s).s :=
  Scpi.runFrom_resume I h x w s hx hrest y

/-- **T8.2 (every newline).**  The same whether the newline ended a message (`rest = []`,
path at the root) or lies inside a payload. -/
theorem runFrom_split {σ : Type} (I : Iface σ) (h : Node) (x : Bytes) (w : Writer) (s : σ)
    (hx : x.getLast? = some 10) (y : Bytes) :
    runFrom I h (x ++ y) w s =
      runFrom I (runFrom I h x w s).header ((runFrom I h x w s).rest ++ y)
        (runFrom I h x w s).w (runFrom I h x w s).s :=
  Scpi.runFrom_split I h x w s hx y

/-- What is returned as unfinished is still unfinished when looked at again: no error is
reported and no handler runs for it. -/
theorem runFrom_rest_idem {σ : Type} (I : Iface σ) (h : Node) (x : Bytes) (w : Writer) (s : σ)
    (hx : x.getLast? = some 10) :
    runFrom I (runFrom I h x w s).header (runFrom I h x w s).rest
        (runFrom I h x w s).w (runFrom I h x w s).s = runFrom I h x w s := by
  have := Scpi.runFrom_split I h x w s hx []
  simp only [List.append_nil] at this
  exact this.symm

/-! ## T8.3 — the stream machine on a message with newlines in payloads -/

/-- A response buffer that is large enough is as good as an unbounded one: if `run` on an
unbounded writer writes at most `n` bytes, `run` with an `n`-byte buffer stops at the same
place, ends in the same user state and has written the same bytes. -/
theorem run_bounded_eq_unbounded {σ : Type} (I : Iface σ) (n : Nat) (m : Bytes) (s : σ)
    (hresp : (run I m { cap := none } s).w.buf.length ≤ n) :
    (run I m { cap := some n } s).s = (run I m { cap := none } s).s ∧
    (run I m { cap := some n } s).w.buf = (run I m { cap := none } s).w.buf ∧
    (run I m { cap := some n } s).rest = (run I m { cap := none } s).rest := by
  obtain ⟨w₁', e, _, _, hb⟩ := runFrom_sim I I.root m s (w₁ := { cap := some n })
    (w₂ := { cap := none }) (pre := []) ⟨rfl, rfl, rfl⟩ ((Nat.zero_add n).symm ▸ hresp)
  unfold run
  rw [e, hb]
  exact ⟨rfl, rfl, rfl⟩

/-- A session: messages handed to `run` one after the other on the unbounded writer `W`;
each ends with a newline, fits in the command buffer, is consumed entirely and adds at
most `n` bytes to the writer. -/
def Session {σ : Type} (I : Iface σ) (n : Nat) : List Bytes → Writer → σ → Prop
  | [], _, _ => True
  | m :: ms, W, s =>
    m.getLast? = some 10 ∧ m.length ≤ n ∧ (run I m W s).rest = [] ∧
    (run I m W s).w.buf.length ≤ W.buf.length + n ∧
    Session I n ms (run I m W s).w (run I m W s).s

/-- Sessions from any state of the machine between messages. -/
theorem stream_session_from {σ : Type} (I : Iface σ) (n : Nat) : ∀ (msgs : List Bytes)
    (st : SpecState σ) (W : Writer), W.cap = none → Session I n msgs W st.user →
    st.pending = [] → st.header = I.root →
    (msgs.flatten.foldl (streamSpec I n) st).pending = [] ∧
    (msgs.flatten.foldl (streamSpec I n) st).header = I.root ∧
    (msgs.flatten.foldl (streamSpec I n) st).user = (run I msgs.flatten W st.user).s ∧
    ∃ d, (run I msgs.flatten W st.user).w.buf = W.buf ++ d ∧
      outBytes (msgs.flatten.foldl (streamSpec I n) st).out = outBytes st.out ++ d := by
  intro msgs
  induction msgs with
  | nil =>
    intro st W _ _ hp hh
    simp only [List.flatten_nil, List.foldl_nil, run, runFrom_nil]
    exact ⟨hp, hh, trivial, [], (List.append_nil _).symm, (List.append_nil _).symm⟩
  | cons m ms ih =>
    intro st W hW hs hp hh
    obtain ⟨hm, hfit, hc, hresp, hrest⟩ := hs
    obtain ⟨a1, a2, a3, d1, a4, a5⟩ := stream_eq_run_from I n m st W hW hm hfit hc hresp hp hh
    have hW1 : (run I m W st.user).w.cap = none := (extends_runFrom I _ _ _ _).1.trans hW
    rw [← a3] at hrest
    obtain ⟨b1, b2, b3, d2, b4, b5⟩ := ih (m.foldl (streamSpec I n) st) _ hW1 hrest a1 a2
    have hrun := C06.later_messages_unaffected_closed I m ms.flatten W st.user hm hc
    rw [List.flatten_cons, List.foldl_append, hrun, ← a3]
    refine ⟨b1, b2, b3, d1 ++ d2, ?_, ?_⟩
    · rw [b4, a4, List.append_assoc]
    · rw [b5, a5, List.append_assoc]

/-- **T8.3 (a whole session).**  A stream that is a sequence of complete messages — each
fits in the command buffer, each may contain newlines inside payloads, each response is
at most `n` bytes — is processed by the stream machine as by ONE call of `run` on the
whole stream with an unbounded writer: same final user state, same bytes sent. -/
theorem stream_payload_messages {σ : Type} (I : Iface σ) (n : Nat) (msgs : List Bytes) (s : σ)
    (hs : Session I n msgs { cap := none } s) :
    (streamRun I n msgs.flatten s).pending = [] ∧ (streamRun I n msgs.flatten s).header = I.root ∧
    (streamRun I n msgs.flatten s).user = (run I msgs.flatten { cap := none } s).s ∧
    outBytes (streamRun I n msgs.flatten s).out = (run I msgs.flatten { cap := none } s).w.buf := by
  obtain ⟨h1, h2, h3, d, h4, h5⟩ := stream_session_from I n msgs (streamInit I s) { cap := none }
    rfl hs rfl rfl
  -- both start empty: `outBytes (streamInit I s).out ++ d` and `[] ++ d` are `d`
  exact ⟨h1, h2, h3, h5.trans h4.symm⟩

/-- **T8.3 (stream machine).**  Let `m` end with a newline, fit in the `n`-byte command
buffer, be consumed entirely by `run` — a complete message (or several), which may contain
any number of newlines inside string and block payloads — and let the response `run`
writes on an unbounded writer be at most `n` bytes.  Streamed byte by byte, `m`
* leaves nothing pending and the path at the root,
* ends in the user state `run` ends in when given `m` whole, and
* the bytes sent are exactly the bytes `run` writes.
The user state is arbitrary and is changed only by handlers and the error handler, so
no error is reported that `run` does not report and every handler runs with the
parameters it gets from `run` (`process_payload_newline_traced`). -/
theorem stream_payload_newline {σ : Type} (I : Iface σ) (n : Nat) (m : Bytes) (s : σ)
    (hm : m.getLast? = some 10) (hfit : m.length ≤ n)
    (hc : (run I m { cap := none } s).rest = [])
    (hresp : (run I m { cap := none } s).w.buf.length ≤ n) :
    (streamRun I n m s).pending = [] ∧ (streamRun I n m s).header = I.root ∧
    (streamRun I n m s).user = (run I m { cap := none } s).s ∧
    outBytes (streamRun I n m s).out = (run I m { cap := none } s).w.buf := by
  have h := stream_payload_messages I n [m] s
    ⟨hm, hfit, hc, Nat.le_trans hresp (Nat.le_add_left _ _), trivial⟩
  rw [show [m].flatten = m from List.append_nil m] at h
  exact h

/-- … and these are also the user state and the bytes of `run` with an `n`-byte response
buffer, as `process` would be compared with in T7.2. -/
theorem stream_payload_newline_bounded {σ : Type} (I : Iface σ) (n : Nat) (m : Bytes) (s : σ)
    (hm : m.getLast? = some 10) (hfit : m.length ≤ n)
    (hc : (run I m { cap := none } s).rest = [])
    (hresp : (run I m { cap := none } s).w.buf.length ≤ n) :
    (streamRun I n m s).user = (run I m { cap := some n } s).s ∧
    outBytes (streamRun I n m s).out = (run I m { cap := some n } s).w.buf := by
  obtain ⟨_, _, a, b⟩ := stream_payload_newline I n m s hm hfit hc hresp
  obtain ⟨c, d, _⟩ := run_bounded_eq_unbounded I n m s hresp
  rw [a, b, c, d]
  exact ⟨rfl, rfl⟩

/-! ## T8.3 for `process`, under every chunking -/

/-- **T8.3 (`process`).**  Whatever the sizes of the reads that deliver it (one byte at a
time, cut inside the payload, cut at the embedded newline, all at once, …), a message `m`
as in `stream_payload_newline` makes `Interface::process::<N, _>` end in the user state
of `run` on `m` given whole, and the bytes handed to `adapter.write` are the bytes `run`
writes. -/
theorem process_payload_newline {σ : Type} (I : Iface σ) (n : Nat) (sc : Script) (s : σ)
    (hf : sc.fault = none)
    (hm : sc.stream.getLast? = some 10) (hfit : sc.stream.length ≤ n)
    (hc : (run I sc.stream { cap := none } s).rest = [])
    (hresp : (run I sc.stream { cap := none } s).w.buf.length ≤ n) :
    (process I n sc s).user = (run I sc.stream { cap := none } s).s ∧
    outBytes ((process I n sc s).trace.filter PEv.nonRead) =
      (run I sc.stream { cap := none } s).w.buf := by
  have hn := pos_of_getLast_fits hm hfit
  obtain ⟨a, b, _, _⟩ := C07.process_refines_stream I n sc s hn hf
  obtain ⟨_, _, c, d⟩ := stream_payload_newline I n sc.stream s hm hfit hc hresp
  rw [a, b, c, d]
  exact ⟨rfl, rfl⟩

/-- **T8.3 (`process`, a whole session)**: a stream of complete messages with newlines in
payloads, delivered in any chunking (reads may span several messages). -/
theorem process_payload_messages {σ : Type} (I : Iface σ) (n : Nat) (sc : Script)
    (msgs : List Bytes) (s : σ) (hn : 1 ≤ n) (hf : sc.fault = none) (hst : sc.stream = msgs.flatten)
    (hs : Session I n msgs { cap := none } s) :
    (process I n sc s).user = (run I sc.stream { cap := none } s).s ∧
    outBytes ((process I n sc s).trace.filter PEv.nonRead) =
      (run I sc.stream { cap := none } s).w.buf := by
  obtain ⟨a, b, _, _⟩ := C07.process_refines_stream I n sc s hn hf
  obtain ⟨_, _, c, d⟩ := stream_payload_messages I n msgs s hs
  rw [a, b, hst, c, d]
  exact ⟨rfl, rfl⟩

/-- **Two chunkings** of the same message give the same final user state and the same
bytes — and both are those of `run`. -/
theorem process_payload_chunking {σ : Type} (I : Iface σ) (n : Nat) (sc₁ sc₂ : Script) (s : σ)
    (hf₁ : sc₁.fault = none) (hf₂ : sc₂.fault = none) (hst : sc₁.stream = sc₂.stream)
    (hm : sc₁.stream.getLast? = some 10) (hfit : sc₁.stream.length ≤ n)
    (hc : (run I sc₁.stream { cap := none } s).rest = [])
    (hresp : (run I sc₁.stream { cap := none } s).w.buf.length ≤ n) :
    (process I n sc₁ s).user = (process I n sc₂ s).user ∧
    outBytes ((process I n sc₁ s).trace.filter PEv.nonRead) =
      outBytes ((process I n sc₂ s).trace.filter PEv.nonRead) := by
  obtain ⟨a, b⟩ := process_payload_newline I n sc₁ s hf₁ hm hfit hc hresp
  obtain ⟨c, d⟩ := process_payload_newline I n sc₂ s hf₂ (hst ▸ hm) (hst ▸ hfit) (hst ▸ hc)
    (hst ▸ hresp)
  rw [a, b, c, d, hst]
  exact ⟨rfl, rfl⟩

/-- **Same handlers, same parameters, same errors.**  With the tracing wrapper (`I.traced`
logs every handler invocation with its converted parameters and every error handed to the
error handler, in order, and otherwise behaves like `I`): the log of `process` over any
chunking of `m` is the log of `run` on `m` given whole.  So a newline inside a payload
produces no error, ends no message, and every unit of the message runs as by `run`. -/
theorem process_payload_newline_traced {σ : Type} (I : Iface σ) (n : Nat) (sc : Script) (s : σ)
    (hf : sc.fault = none)
    (hm : sc.stream.getLast? = some 10) (hfit : sc.stream.length ≤ n)
    (hc : (run I sc.stream { cap := none } s).rest = [])
    (hresp : (run I sc.stream { cap := none } s).w.buf.length ≤ n) :
    (process I.traced n sc (s, [])).user.2 = (run I.traced sc.stream { cap := none } (s, [])).s.2 ∧
    (process I.traced n sc (s, [])).user.1 = (run I sc.stream { cap := none } s).s := by
  have e := run_traced I sc.stream { cap := none } s []
  obtain ⟨a, _⟩ := process_payload_newline I.traced n sc (s, []) hf hm hfit
    (by rw [e]; exact hc) (by rw [e]; exact hresp)
  rw [a]
  refine ⟨rfl, ?_⟩
  rw [e]
  rfl

/-! ## Non-vacuity: `T 'a⏎b'⏎` -/

/-- One command `T` taking a string; the user state is the list of strings `T` was called
with and the list of errors reported. -/
def exT : Iface (List Bytes × List Err) where
  root := .mk 0 [([84], .mk 1 [] (some 0) none)] none none
  cmds := [{ argTys := [.str]
             handler := fun s tvs =>
               match tvs with
               | [.str b] => ((s.1 ++ [b], s.2), .ok .unit)
               | _ => (s, .ok .unit) }]
  onError := fun s e => (s.1, s.2 ++ [e])

/-- `T 'a⏎b'⏎`: the string payload is `a`, newline, `b`. -/
def exMsg : Bytes := [84, 32, 39, 97, 10, 98, 39, 10]

/-- Given whole to `run`: one call of the handler with `a⏎b`, no error. -/
example : (run exT exMsg { cap := none } ([], [])).s = ([[97, 10, 98]], []) ∧
    (run exT exMsg { cap := none } ([], [])).rest = [] := by decide +kernel

/-- Streamed through a 16-byte buffer: the handler is called once, with `a⏎b`, and no error
is reported; nothing is pending afterwards. -/
example : (streamRun exT 16 exMsg ([], [])).user = ([[97, 10, 98]], []) ∧
    (streamRun exT 16 exMsg ([], [])).pending = [] ∧
    (streamRun exT 16 exMsg ([], [])).out = [] := by decide +kernel

/-- After the first five bytes `T 'a⏎` — the newline inside the payload has arrived —
nothing has been executed, nothing has been reported and the five bytes are kept. -/
example : (streamRun exT 16 [84, 32, 39, 97, 10] ([], [])).user = ([], []) ∧
    (streamRun exT 16 [84, 32, 39, 97, 10] ([], [])).pending = [84, 32, 39, 97, 10] := by
  decide +kernel

/-- The hypotheses of `runFrom_resume` hold for `x = T 'a⏎`. -/
example : ([84, 32, 39, 97, 10] : Bytes).getLast? = some 10 ∧
    (runFrom exT exT.root [84, 32, 39, 97, 10] { cap := some 16 } ([], [])).rest ≠ [] := by
  decide +kernel

/-- The premise `x.getLast? = some 10` of `runFrom_resume` is needed (it always holds in
`process`, which calls `run_from` at newlines only): `x = T 1e` is rejected for lack of an
exponent and returned as rest, with one error reported; continuing with `y = 5⏎` reports
that error in addition to what `run_from` reports for `T 1e5⏎` given whole. -/
theorem resume_needs_newline :
    (runFrom exT exT.root [84, 32, 49, 101] { cap := none } ([], [])).rest = [84, 32, 49, 101] ∧
    (runFrom exT exT.root [84, 32, 49, 101] { cap := none } ([], [])).s
      = ([], [.std .InvalidCharacter]) ∧
    (runFrom exT exT.root ([84, 32, 49, 101] ++ [53, 10]) { cap := none } ([], [])).s
      = ([], [.std .DataTypeError]) ∧
    (runFrom exT exT.root ([84, 32, 49, 101] ++ [53, 10]) { cap := none }
        ([], [.std .InvalidCharacter])).s
      = ([], [.std .InvalidCharacter, .std .DataTypeError]) := by decide +kernel

/-- The hypotheses of `stream_payload_newline` hold for this message and `n = 16`. -/
theorem exMsg_ok : exMsg.getLast? = some 10 ∧ exMsg.length ≤ 16 ∧
    (run exT exMsg { cap := none } ([], [])).rest = [] ∧
    (run exT exMsg { cap := none } ([], [])).w.buf.length ≤ 16 := by decide +kernel

/-- The message cut inside the payload. -/
def exCutInside : Script := { stream := exMsg, sizes := [4, 4] }
/-- The message cut at the embedded newline. -/
def exCutAtNewline : Script := { stream := exMsg, sizes := [5, 3] }
def exBytewise : Script := { stream := exMsg, sizes := [1, 1, 1, 1, 1, 1, 1, 1] }
def exWhole : Script := { stream := exMsg, sizes := [8] }

/-- `run` on the whole message: one call of the handler with `a⏎b`, no error. -/
theorem exMsg_run : (run exT exMsg { cap := none } ([], [])).s = ([[97, 10, 98]], []) := by
  decide +kernel

/-- Every fault-free chunking of `exMsg` leaves that user state (`process_payload_newline`). -/
theorem exMsg_chunked (sizes : List Nat) :
    (process exT 16 { stream := exMsg, sizes := sizes } ([], [])).user = ([[97, 10, 98]], []) := by
  have h := process_payload_newline exT 16 { stream := exMsg, sizes := sizes } ([], []) rfl
  dsimp only at h
  exact (h exMsg_ok.1 exMsg_ok.2.1 exMsg_ok.2.2.1 exMsg_ok.2.2.2).1.trans exMsg_run

example : (process exT 16 exCutInside ([], [])).user = ([[97, 10, 98]], []) := exMsg_chunked _
example : (process exT 16 exCutAtNewline ([], [])).user = ([[97, 10, 98]], []) := exMsg_chunked _
example : (process exT 16 exBytewise ([], [])).user = ([[97, 10, 98]], []) := exMsg_chunked _
example : (process exT 16 exWhole ([], [])).user = ([[97, 10, 98]], []) := exMsg_chunked _

/-- An instance of `process_payload_newline`. -/
example : (process exT 16 exCutAtNewline ([], [])).user = (run exT exMsg { cap := none } ([], [])).s := by
  have h := process_payload_newline exT 16 exCutAtNewline ([], []) rfl
  -- name the stream first: unification under `(run …).w.buf.length` would evaluate `run`
  rw [show exCutAtNewline.stream = exMsg from rfl] at h
  exact (h exMsg_ok.1 exMsg_ok.2.1 exMsg_ok.2.2.1 exMsg_ok.2.2.2).1

/-- The trace of `process` over the chunking cut at the embedded newline: the handler call,
with the payload verbatim, and nothing else. -/
example : (process exT.traced 16 exCutAtNewline (([], []), [])).user.2
    = [Ev.call 0 [.str [97, 10, 98]]] := by decide +kernel

/-- The same with a block: `T #13a⏎b⏎` is refused only because `T` wants a string — the
three payload bytes `a⏎b` are one parameter, and exactly one error is reported (by `run`
and by the stream machine alike). -/
example : (run exT [84, 32, 35, 49, 51, 97, 10, 98, 10] { cap := none } ([], [])).s
      = ([], [.std .DataTypeError]) ∧
    (streamRun exT 16 [84, 32, 35, 49, 51, 97, 10, 98, 10] ([], [])).user
      = ([], [.std .DataTypeError]) := by decide +kernel

/-! ## The bound on the response is needed -/

/-- `Q?` answers `1234567`; errors are logged. -/
def exQ : Iface (List Err) where
  root := .mk 0 [([81], .mk 1 [] none (some 0))] none none
  cmds := [{ argTys := [], handler := fun s _ => (s, .ok (.int 1234567)) }]
  onError := fun s e => s ++ [e]

/-- `Q?⏎` fits in a 4-byte command buffer but its response `1234567⏎` does not fit in the
4-byte response buffer `process` uses: the stream machine reports an error that `run`
with an unbounded writer does not.  Some bound on the response is needed in T8.3. -/
theorem exQ_response_bound_needed :
    (run exQ [81, 63, 10] { cap := none } []).s = [] ∧
    (run exQ [81, 63, 10] { cap := none } []).rest = [] ∧
    (streamRun exQ 4 [81, 63, 10] []).user ≠ [] := by decide +kernel

end C08
end Scpi
