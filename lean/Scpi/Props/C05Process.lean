/-
C05, `process` part — "For every byte sequence … streamed through process - with any
command buffer size of at least one byte, any split of the stream into reads, and
response buffers of any capacity including ones too small for the response - the
library never panics and never loops without consuming input, …"

The model of `Interface::process::<N, A>` is `Scpi.process I n sc s`
(Scpi/Process.lean): `n` is the const generic `N` (the size of the command buffer AND
the capacity of the response buffer), the script `sc` gives the byte stream, the sizes
of the successive reads (any split, including zero-length reads) and an optional
transport fault.  Every place where the Rust code can panic (`cmd_buf[a..b]` out of
range, `usize` subtraction) or spin (an iteration of either loop that makes no
progress) is an explicit `crash` outcome of the model; the theorems below show that
none is reachable when `n ≥ 1`.

Assumed of the transport, as the user's handlers are assumed not to panic: `read` reports at
most as many bytes as the slice it was given holds.  The scripted adapter does
(`readCount_le`); one that reported more would make `cmd_buf[read_offset..read_end]` panic.

The theorems speak of the loops through their one-step functions `outerStep` and `innerStep`
(Scpi/Proofs/ProcStep.lean: `procLoop_succ`, `procInner_succ`).
-/
import Scpi.Proofs.ProcInv

namespace Scpi
open Proc
namespace C05

/-- **T5.3 (offsets invariant)**.  `PInv n st` is
`st.buf.length = n ∧ st.procOff ≤ st.readOff ∧ st.readOff < n`; `IInv n readEnd st` is
`st.buf.length = n ∧ st.procOff ≤ st.readOff ∧ st.readOff ≤ readEnd ∧ readEnd ≤ n`.

* `PInv` holds initially (this is where `n ≥ 1` is used);
* one iteration of the outer loop that goes round again re-establishes `PInv`
  (for every fault schedule), hence every state at the top of an outer iteration
  satisfies it;
* `PInv` gives `IInv` right after the read, and the inner loop keeps `IInv`
  whatever its fuel;
* under `PInv` the slice handed to `adapter.read` is not empty (`dstLen ≥ 1`). -/
theorem process_offsets_inv {σ : Type} (I : Iface σ) (n : Nat) (hn : 1 ≤ n) (sc : Script) (s : σ) :
    PInv n (initState I n sc s) ∧
    (∀ fault st st', PInv n st → outerStep I n fault st = .inl st' → PInv n st') ∧
    (∀ fault st, OuterReach I n fault (initState I n sc s) st → PInv n st) ∧
    (∀ st : PState σ, PInv n st → IInv n (st.readOff + readCount n st) (afterRead n st)) ∧
    (∀ fault readEnd fuel st, IInv n readEnd st →
        IInv n readEnd (procInner I n fault fuel readEnd st).1) ∧
    (∀ st : PState σ, PInv n st → 1 ≤ n - st.readOff) := by
  exact ⟨initState_inv I n sc s hn, fun fault _ _ => outerStep_pinv I n fault,
    fun fault st => outerReach_inv I n fault _ st (initState_inv I n sc s hn), afterRead_inv n,
    fun fault readEnd fuel st h => (procInner_inv I n fault readEnd fuel st h).1,
    fun st h => Nat.sub_pos_of_lt h.lt⟩

/-- **T5.2 (progress)**: an iteration of the outer loop that goes round again has consumed
a schedule entry or at least one byte of the stream; an iteration of the inner loop that goes
round again has moved `read_offset` forward (past a newline).  So the fuel of either loop
(`sizes.length + stream.length + 1`, resp. `count + 1`) is never used up — and running out of
fuel is the model's rendering of "loops without consuming input". -/
theorem process_progress {σ : Type} (I : Iface σ) (n : Nat) (fault : Option (Nat × Int)) :
    (∀ st st', PInv n st → outerStep I n fault st = .inl st' →
        st'.sizes.length + st'.stream.length < st.sizes.length + st.stream.length) ∧
    (∀ readEnd st st', IInv n readEnd st → innerStep I n fault readEnd st = .inl st' →
        st.readOff < st'.readOff ∧ st'.readOff ≤ readEnd) := by
  constructor
  · intro st st' h hs
    have := outerStep_inv I n fault st h
    rw [hs] at this
    exact this.2
  · intro readEnd st st' h hs
    have := innerStep_inv I n fault readEnd st h
    rw [hs] at this
    exact ⟨this.2, this.1.re⟩

/-- **T5.1 (`process`)**: for every interface (tree, handlers, error handler), every buffer
size `n ≥ 1`, every script (stream, read sizes — any split of the stream, zero-length reads
included — and fault) and every user state, `process` does not crash: no slice is out of
range, no subtraction underflows, no `unwrap` fails and neither loop runs out of fuel
(`Crash.noProgress`).  The response buffer has capacity `n` too, so this covers responses
that do not fit. -/
theorem process_never_crashes {σ : Type} (I : Iface σ) (n : Nat) (hn : 1 ≤ n) (sc : Script) (s : σ) :
    ∀ c, (process I n sc s).stop ≠ .crash c := by
  rw [process_eq]
  exact procLoop_no_crash I n sc.fault _ _ (initState_inv I n sc s hn) (Nat.lt_succ_self _)

/-- The hypothesis `n ≥ 1` is needed: with `N = 0` the real code calls `read` on an empty
slice for ever; the model reports it as `noProgress`. -/
example :
    let I : Iface Unit := { root := .mk 0 [] none none, cmds := [], onError := fun s _ => s }
    (process I 0 { stream := [88], sizes := [] } ()).stop = .crash .noProgress := by
  intro I
  decide +kernel

/-! ### Non-vacuity: a run with `n = 2` on a stream longer than the buffer -/

/-- One command `X` without response. -/
def tree1 : Node := .mk 0 [([88], .mk 1 [] (some 0) none)] none none
def I1 : Iface Unit :=
  { root := tree1, cmds := [{ argTys := [], handler := fun s _ => (s, .ok .unit) }],
    onError := fun s _ => s }
/-- `X\nXXX\nX\n`, delivered as a 1-byte read, then a read limited by the buffer, then
buffer-sized reads. -/
def sc1 : Script := { stream := [88, 10, 88, 88, 88, 10, 88, 10], sizes := [1, 5] }

private def stt (buf : Bytes) (readOff : Nat) (stream : Bytes) (sizes : List Nat)
    (trace : List PEv) : PState Unit :=
  { buf, procOff := 0, readOff, header := tree1, user := (), stream, sizes,
    calls := trace.length, trace }

/-- The run: five reads (the third fills the 2-byte buffer with the unfinished `XX`, which is
discarded), then end of stream. -/
example : (process I1 2 sc1 ()).stop = .transport .eos ∧
    (process I1 2 sc1 ()).trace = [.r 1 2, .r 1 1, .r 2 2, .r 2 2, .r 2 2] := by
  decide +kernel

/-- `process_never_crashes` applies to it. -/
example : ∀ c, (process I1 2 sc1 ()).stop ≠ .crash c :=
  process_never_crashes I1 2 (by decide) sc1 ()

end C05
end Scpi
