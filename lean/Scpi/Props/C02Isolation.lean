/-
C02/C06 — message isolation WITHOUT hypotheses: the parser-finality premises of
`C02.run_append_message` and `C06.later_messages_unaffected` are discharged with the
theorems of C12 (`Scpi/Props/C12.lean`: `parse_ok_append`, `parse_err_final_eq`).

Kept in a file of its own so that C02.lean and C06.lean do not depend on the finality
proofs of C12.
-/
import Scpi.Props.C02
import Scpi.Props.C06
import Scpi.Props.C12

namespace Scpi

/-- C12/T12.1 is the first finality premise. -/
theorem parseFinalOk : ParseFinalOk :=
  fun root h x y r c hp => C12.parse_ok_append root h x y r c hp

/-- C12/T12.3 is the second. -/
theorem parseFinalErr : ParseFinalErr :=
  fun root h x y hx he => C12.parse_err_final_eq root h x hx he y

namespace C02

/-- **T2.2, unconditional.**  Let `x` end with a terminator and be consumed completely
(`rest = []`).  Then the path is back at the root and running on `x ++ y` is running on
`x` and then on `y` from the root with the writer and user state `x` left: no
interpreter state survives a terminator. -/
theorem run_append_message_closed {σ : Type} (I : Iface σ) (h : Node) (x : Bytes) (w : Writer)
    (s : σ) (hx : x.getLast? = some 10) (hrest : (runFrom I h x w s).rest = []) :
    (runFrom I h x w s).header = I.root ∧ (runFrom I h x w s).crash = none ∧
    ∀ y, runFrom I h (x ++ y) w s =
      runFrom I I.root y (runFrom I h x w s).w (runFrom I h x w s).s :=
  run_append_message I parseFinalOk parseFinalErr h x w s hx hrest

/-- The same for `run`: the handler a message selects never depends on any message
sent before it. -/
theorem run_append_message_run_closed {σ : Type} (I : Iface σ) (x y : Bytes) (w : Writer) (s : σ)
    (hx : x.getLast? = some 10) (hrest : (run I x w s).rest = []) :
    run I (x ++ y) w s = run I y (run I x w s).w (run I x w s).s :=
  run_append_message_run I parseFinalOk parseFinalErr x y w s hx hrest

/-- An instance: after the faulty message `S:A;X⏎` of the demo interface, ANY `y` is
run from the root on the state `[1, 99]`. -/
example (y : Bytes) :
    run Demo.I ([83, 58, 65, 59, 88, 10] ++ y) Demo.W [] =
      run Demo.I y (run Demo.I [83, 58, 65, 59, 88, 10] Demo.W []).w [1, 99] := by
  -- both facts about the run of the first message come from one evaluation of it
  have h : (run Demo.I [83, 58, 65, 59, 88, 10] Demo.W []).rest = [] ∧
      (run Demo.I [83, 58, 65, 59, 88, 10] Demo.W []).s = [1, 99] := by decide +kernel
  rw [run_append_message_run_closed Demo.I [83, 58, 65, 59, 88, 10] y Demo.W []
    (by decide +kernel) h.1, h.2]

end C02

namespace C06

/-- **T6.2, unconditional**: every later message is executed exactly as if the earlier
ones — faulty or not — had not been sent, except for what they did to the writer and
to the user's state. -/
theorem later_messages_unaffected_closed {σ : Type} (I : Iface σ) (x y : Bytes) (w : Writer)
    (s : σ) (hx : x.getLast? = some 10) (hrest : (run I x w s).rest = []) :
    run I (x ++ y) w s = run I y (run I x w s).w (run I x w s).s :=
  later_messages_unaffected I parseFinalOk parseFinalErr x y w s hx hrest

/-- … and the errors reported for `x ++ y` are those of `x` followed by those of `y`. -/
theorem later_errors_unaffected_closed {σ : Type} (I : Iface σ) (x y : Bytes) (w : Writer)
    (s : σ) (hx : x.getLast? = some 10) (hrest : (run I x w s).rest = []) :
    errorsOf I I.root (x ++ y) w s =
      errorsOf I I.root x w s ++ errorsOf I I.root y (run I x w s).w (run I x w s).s :=
  later_errors_unaffected I parseFinalOk parseFinalErr x y w s hx hrest

end C06
end Scpi
