/-
Executing one unit, for arbitrary handlers.  `executeCommand` and `execute` together are one
closed-form equation (`execute_eq`) with one case analysis (`execute_cases`); proofs about
`execute` go through these and do not unfold it (but `E2E.execute_hdrCall`, on a call without
parameters, evaluates it by `rfl`).  What `execute` does to the writer is `respond`,
one list of writer calls (`respond_eq_calls`), so the `calls` lemmas of `RespWriter` apply to it.
-/
import Scpi.Spec.MsgAst
import Scpi.Proofs.RespWriter

namespace Scpi

theorem convertArgs_nil (args : List Value) : convertArgs [] args = .ok [] := by
  cases args <;> rfl

theorem convertArgs_ok_iff (tys : List Ty) (args : List Value) (tvs : List TVal)
    (hl : tys.length ≤ args.length) :
    convertArgs tys args = .ok tvs ↔
      ∃ (_ : tvs.length = tys.length), ∀ (i : Nat) (hi : i < tys.length),
        convert tys[i] (args[i]'(by omega)) = .ok (tvs[i]'(by omega)) := by
  induction tys generalizing args tvs with
  | nil =>
    rw [convertArgs_nil]
    exact ⟨fun h => Except.ok.inj h ▸ ⟨rfl, nofun⟩,
      fun h => h.elim fun hn _ => by rw [List.eq_nil_of_length_eq_zero hn]⟩
  | cons t ts ih =>
    cases args with
    | nil => exact absurd hl (Nat.not_succ_le_zero _)
    | cons v vs =>
      have ih := fun tvs' => ih vs tvs' (Nat.le_of_succ_le_succ hl)
      rw [convertArgs]
      -- position 0 is the head, position `i + 1` is position `i` of the tails
      cases tvs with
      | nil =>
        refine ⟨?_, fun h => h.elim fun hn _ => absurd hn (Nat.succ_ne_zero _).symm⟩
        cases convert t v <;> cases convertArgs ts vs <;> rintro ⟨⟩
      | cons tv tvs' =>
        simp only [List.length_cons, Nat.forall_lt_succ_left', List.getElem_cons_zero,
          List.getElem_cons_succ, Nat.add_right_cancel_iff, exists_and_left, ← ih]
        cases convert t v <;> cases convertArgs ts vs <;>
          simp only [Except.ok.injEq, List.cons.injEq, reduceCtorEq, and_false, false_and]

theorem convertArgs_err_iff (tys : List Ty) (args : List Value) (e : Err)
    (hl : tys.length ≤ args.length) :
    convertArgs tys args = .error (.inl e) ↔
      ∃ (i : Nat) (hi : i < tys.length), convert tys[i] (args[i]'(by omega)) = .error e ∧
        ∀ (j : Nat) (hj : j < i), ∃ tv,
          convert (tys[j]'(by omega)) (args[j]'(by omega)) = .ok tv := by
  induction tys generalizing args with
  | nil =>
    rw [convertArgs_nil]
    exact ⟨fun h => (nomatch h), fun ⟨i, hi, _⟩ => absurd hi (Nat.not_lt_zero _)⟩
  | cons t ts ih =>
    cases args with
    | nil => exact absurd hl (Nat.not_succ_le_zero _)
    | cons v vs =>
      have ih := ih vs (Nat.le_of_succ_le_succ hl)
      rw [convertArgs]
      -- the failing position is 0, or `i + 1` with the head converting and `i` failing in the tails
      simp only [List.length_cons, Nat.exists_lt_succ_left', Nat.forall_lt_succ_left',
        List.getElem_cons_zero, List.getElem_cons_succ, Nat.not_lt_zero, forall_false, implies_true,
        and_true, and_left_comm (b := ∃ tv, convert t v = .ok tv), exists_and_left, ← ih]
      cases convert t v with
      | error e' =>
        simp only [Except.error.injEq, Sum.inl.injEq, reduceCtorEq, exists_const, false_and,
          or_false]
      | ok tv =>
        simp only [reduceCtorEq, false_or, Except.ok.injEq, exists_eq', true_and]
        cases convertArgs ts vs <;> simp only [reduceCtorEq]

theorem Msg.convertArgs_eq_convertAll (tys : List Ty) (args : List Value)
    (hl : tys.length ≤ args.length) :
    convertArgs tys args =
      match Msg.convertAll tys args with
      | .ok tvs => .ok tvs
      | .error e => .error (.inl e) := by
  induction tys generalizing args with
  | nil => cases args <;> rfl
  | cons t ts ih =>
    cases args with
    | nil => exact absurd hl (Nat.not_succ_le_zero _)
    | cons v vs =>
      simp only [convertArgs, Msg.convertAll]
      cases convert t v with
      | error e => rfl
      | ok tv =>
        simp only [ih vs (Nat.le_of_succ_le_succ hl)]
        cases Msg.convertAll ts vs <;> rfl

theorem convertArgs_no_crash (tys : List Ty) (args : List Value) (hl : tys.length ≤ args.length)
    (c : Crash) : convertArgs tys args ≠ .error (.inr c) := by
  rw [Msg.convertArgs_eq_convertAll tys args hl]
  cases Msg.convertAll tys args <;> nofun

/-- FINDING: `convertArgs` ignores surplus parameters (the arity check is made before it,
by `executeCommand`), so `convertArgs_ok_iff` and `convertArgs_err_iff` can bound the
number of parameters from below only. -/
theorem convertArgs_ignores_surplus (v : Value) : convertArgs [] [v] = .ok [] := rfl

def unitSlot (call : CommandCall) : Option Nat :=
  if call.query then call.node.query else call.node.command

/-- `unitSlot` under the name the response theorems (`Returned`; C04, C09) use. -/
def callSlot (call : CommandCall) : Option Nat :=
  if call.query then call.node.query else call.node.command

theorem callSlot_query {call : CommandCall} (hq : call.query = true) :
    callSlot call = call.node.query := if_pos hq

theorem callSlot_command {call : CommandCall} (hq : call.query = false) :
    callSlot call = call.node.command := if_neg (ne_true_of_eq_false hq)

def resolveCmd {σ : Type} (I : Iface σ) (call : CommandCall) : Option (Cmd σ) :=
  (unitSlot call).bind fun id => I.cmds[id]?

theorem unitSlot_eq_slot (call : CommandCall) : unitSlot call = slot call.query call.node := rfl

theorem Msg.slotCmd_eq_resolveCmd {σ : Type} (I : Iface σ) (call : CommandCall) :
    Msg.slotCmd I call.node call.query = resolveCmd I call := rfl

theorem resolveCmd_eq_some {σ : Type} {I : Iface σ} {call : CommandCall} {c : Cmd σ} :
    resolveCmd I call = some c ↔ ∃ id, unitSlot call = some id ∧ I.cmds[id]? = some c :=
  Option.bind_eq_some_iff

theorem resolve_eq_none_iff {σ : Type} (I : Iface σ) (call : CommandCall) :
    resolveCmd I call = none ↔
      unitSlot call = none ∨ ∃ id, unitSlot call = some id ∧ I.cmds.length ≤ id := by
  unfold resolveCmd
  cases unitSlot call with
  | none => simp
  | some id => simp

/-- What `executeCommand` (the write) and `execute` (the newline and flush of a query) do with
the value a handler returned. -/
def respond (query : Bool) (w : Writer) (resp : Resp) : Writer × ExecRes :=
  match w.writeResp resp with
  | (w', .error e) => (w', .err e)
  | (w', .ok ()) =>
    if query then
      match w'.call (.direct [10]) with
      | (w'', .ok ()) => (w''.flush, .ok)
      | (w'', .error e) => (w'', .err e)
    else (w', .ok)

theorem respond_eq_calls (q : Bool) (w : Writer) (resp : Resp) :
    respond q w resp =
      match w.calls (resp.calls ++ if q then [.direct [10]] else []) with
      | (w', .ok ()) => (if q then w'.flush else w', .ok)
      | (w', .error e) => (w', .err e) := by
  rw [Writer.calls_append]
  unfold respond Writer.writeResp
  rcases w.calls resp.calls with ⟨w1, (e | ⟨⟨⟩⟩)⟩
  · rfl
  · cases q
    · rfl
    · simp only [if_true, Writer.calls]
      rcases w1.call (.direct [10]) with ⟨w2, (e | ⟨⟨⟩⟩)⟩ <;> rfl

theorem respond_no_crash (q : Bool) (w : Writer) (resp : Resp) (c : Crash) :
    (respond q w resp).2 ≠ .crash c := by
  rw [respond_eq_calls]
  split <;> exact ExecRes.noConfusion

theorem execute_eq {σ : Type} (I : Iface σ) (call : CommandCall) (w : Writer) (s : σ) :
    execute I call w s =
      match resolveCmd I call with
      | none => (s, w, .err (.std .UndefinedHeader))
      | some c =>
        if call.args.length ≠ c.argTys.length then (s, w, .err (.std .UnexpectedNumberOfParameters))
        else
          match convertArgs c.argTys call.args with
          | .error (.inl e) => (s, w, .err e)
          | .error (.inr cr) => (s, w, .crash cr)
          | .ok tvs =>
            match c.handler s tvs with
            | (s', .error e) => (s', w, .err e)
            | (s', .ok resp) => (s', respond call.query w resp) := by
  unfold execute resolveCmd unitSlot
  cases (if call.query then call.node.query else call.node.command) with
  | none => rfl
  | some id =>
    dsimp only [Option.bind_some]
    unfold executeCommand
    cases I.cmds[id]? with
    | none => rfl
    | some c =>
      dsimp only
      by_cases hl : call.args.length ≠ c.argTys.length
      · rw [if_pos hl, if_pos hl]
      · rw [if_neg hl, if_neg hl]
        cases convertArgs c.argTys call.args with
        | error e => cases e <;> rfl
        | ok tvs =>
          dsimp only
          rcases c.handler s tvs with ⟨s', e | resp⟩
          · rfl
          · dsimp only [respond]
            rcases w.writeResp resp with ⟨w', e | ⟨⟩⟩
            · rfl
            · cases call.query
              · rfl
              · dsimp only [if_true]
                rcases w'.call (.direct [10]) with ⟨w'', e | ⟨⟩⟩ <;> rfl

theorem execute_no_slot {σ : Type} {I : Iface σ} {call : CommandCall}
    (hr : resolveCmd I call = none) (w : Writer) (s : σ) :
    execute I call w s = (s, w, .err (.std .UndefinedHeader)) := by
  rw [execute_eq, hr]

theorem execute_arity {σ : Type} {I : Iface σ} {call : CommandCall} {c : Cmd σ}
    (hr : resolveCmd I call = some c) (hl : call.args.length ≠ c.argTys.length) (w : Writer)
    (s : σ) : execute I call w s = (s, w, .err (.std .UnexpectedNumberOfParameters)) := by
  rw [execute_eq, hr]
  exact if_pos hl

theorem execute_conversion {σ : Type} {I : Iface σ} {call : CommandCall} {c : Cmd σ} {e : Err}
    (hr : resolveCmd I call = some c) (hl : call.args.length = c.argTys.length)
    (hca : convertArgs c.argTys call.args = .error (.inl e)) (w : Writer) (s : σ) :
    execute I call w s = (s, w, .err e) := by
  rw [execute_eq, hr]
  dsimp only
  rw [if_neg (not_not_intro hl), hca]

theorem execute_called {σ : Type} {I : Iface σ} {call : CommandCall} {c : Cmd σ} {tvs : List TVal}
    (hr : resolveCmd I call = some c) (hl : call.args.length = c.argTys.length)
    (hca : convertArgs c.argTys call.args = .ok tvs) (w : Writer) (s : σ) :
    execute I call w s =
      match c.handler s tvs with
      | (s', .error e) => (s', w, .err e)
      | (s', .ok resp) => (s', respond call.query w resp) := by
  rw [execute_eq, hr]
  dsimp only
  rw [if_neg (not_not_intro hl), hca]

/-- There is no crash case: with the arity checked `convertArgs` cannot crash. -/
theorem execute_cases {σ : Type} (I : Iface σ) (call : CommandCall) (w : Writer) (s : σ)
    {motive : σ × Writer × ExecRes → Prop}
    (noSlot : resolveCmd I call = none → motive (s, w, .err (.std .UndefinedHeader)))
    (arity : ∀ c, resolveCmd I call = some c → call.args.length ≠ c.argTys.length →
      motive (s, w, .err (.std .UnexpectedNumberOfParameters)))
    (conversion : ∀ c e, resolveCmd I call = some c → call.args.length = c.argTys.length →
      convertArgs c.argTys call.args = .error (.inl e) → motive (s, w, .err e))
    (handlerError : ∀ c tvs s' e, resolveCmd I call = some c →
      call.args.length = c.argTys.length → convertArgs c.argTys call.args = .ok tvs →
      c.handler s tvs = (s', .error e) → motive (s', w, .err e))
    (returned : ∀ c tvs s' resp, resolveCmd I call = some c →
      call.args.length = c.argTys.length → convertArgs c.argTys call.args = .ok tvs →
      c.handler s tvs = (s', .ok resp) → motive (s', respond call.query w resp)) :
    motive (execute I call w s) := by
  rw [execute_eq]
  cases hr : resolveCmd I call with
  | none => exact noSlot hr
  | some c =>
    dsimp only
    split
    · next hl => exact arity c hr hl
    · next hl =>
      have hl' : call.args.length = c.argTys.length := Decidable.of_not_not hl
      cases hca : convertArgs c.argTys call.args with
      | error e =>
        cases e with
        | inl e => exact conversion c e hr hl' hca
        | inr cr => exact absurd hca (convertArgs_no_crash _ _ (Nat.le_of_eq hl'.symm) cr)
      | ok tvs =>
        dsimp only
        rcases hh : c.handler s tvs with ⟨s', (e | resp)⟩
        · exact handlerError c tvs s' e hr hl' hca hh
        · exact returned c tvs s' resp hr hl' hca hh

theorem execute_no_crash {σ : Type} (I : Iface σ) (call : CommandCall) (w : Writer) (s : σ) :
    ∀ c, (execute I call w s).2.2 ≠ .crash c := fun cr =>
  execute_cases I call w s (motive := fun r => r.2.2 ≠ .crash cr) (fun _ => ExecRes.noConfusion)
    (fun _ _ _ => ExecRes.noConfusion) (fun _ _ _ _ _ => ExecRes.noConfusion)
    (fun _ _ _ _ _ _ _ _ => ExecRes.noConfusion) fun _ _ _ _ _ _ _ _ => respond_no_crash _ _ _ cr

theorem respond_err_iff (q : Bool) (w w' : Writer) (resp : Resp) (e : Err) :
    respond q w resp = (w', .err e) ↔
      w.writeResp resp = (w', .error e) ∨
      ∃ w1, w.writeResp resp = (w1, .ok ()) ∧ q = true ∧ w1.call (.direct [10]) = (w', .error e) := by
  unfold respond
  rcases w.writeResp resp with ⟨w1, (e1 | ⟨⟨⟩⟩)⟩
  · simp
  · cases q
    · simp
    · simp only [↓reduceIte, Prod.mk.injEq, reduceCtorEq, and_false, and_true, true_and,
        exists_eq_left', false_or]
      rcases w1.call (.direct [10]) with ⟨w2, (e2 | ⟨⟨⟩⟩)⟩ <;> simp

theorem respond_ok_iff (q : Bool) (w w' : Writer) (resp : Resp) :
    respond q w resp = (w', .ok) ↔
      ∃ w1, w.writeResp resp = (w1, .ok ()) ∧
        ((q = false ∧ w' = w1) ∨
         (q = true ∧ ∃ w2, w1.call (.direct [10]) = (w2, .ok ()) ∧ w' = w2.flush)) := by
  unfold respond
  rcases w.writeResp resp with ⟨w1, (e1 | ⟨⟨⟩⟩)⟩
  · simp
  · cases q
    · simp [eq_comm]
    · simp only [if_true, Prod.mk.injEq, true_and, reduceCtorEq, exists_eq_left', and_true]
      rcases w1.call (.direct [10]) with ⟨w2, (e2 | ⟨⟨⟩⟩)⟩ <;> simp [eq_comm]

def Returned {σ : Type} (I : Iface σ) (id : Nat) (args : List Value) (s s' : σ) (resp : Resp) :
    Prop :=
  ∃ c tvs, I.cmds[id]? = some c ∧ args.length = c.argTys.length ∧
    convertArgs c.argTys args = .ok tvs ∧ c.handler s tvs = (s', .ok resp)

theorem executeCommand_of_returned_err {σ : Type} {I : Iface σ} {id : Nat} {args : List Value}
    {s s' : σ} {resp : Resp} (h : Returned I id args s s' resp) {w w' : Writer} {e : Err}
    (hw : w.writeResp resp = (w', .error e)) :
    executeCommand I id args w s = (s', w', .err e) := by
  obtain ⟨c, tvs, hc, hlen, hconv, hh⟩ := h
  simp only [executeCommand, hc, hlen, ne_eq, not_true_eq_false, if_false, hconv, hh, hw]

theorem execute_returned {σ : Type} {I : Iface σ} {call : CommandCall} {id : Nat} {s s' : σ}
    {resp : Resp} (hs : callSlot call = some id) (h : Returned I id call.args s s' resp)
    (w : Writer) : execute I call w s = (s', respond call.query w resp) := by
  obtain ⟨c, tvs, hc, hlen, hconv, hh⟩ := h
  rw [execute_called (resolveCmd_eq_some.2 ⟨id, hs, hc⟩) hlen hconv, hh]

theorem execute_ok_returned {σ : Type} {I : Iface σ} {call : CommandCall} {w w' : Writer}
    {s s' : σ} (h : execute I call w s = (s', w', .ok)) :
    ∃ id resp, callSlot call = some id ∧ Returned I id call.args s s' resp ∧
      respond call.query w resp = (w', .ok) := by
  revert h
  refine execute_cases I call w s (motive := fun r => r = (s', w', .ok) → _) ?_ ?_ ?_ ?_ ?_
  · exact fun _ h => nomatch h
  · exact fun _ _ _ h => nomatch h
  · exact fun _ _ _ _ _ h => nomatch h
  · exact fun _ _ _ _ _ _ _ _ h => nomatch h
  · intro c tvs s1 resp hr hl hca hh h
    obtain ⟨rfl, h2⟩ := Prod.mk.inj h
    obtain ⟨id, hs, hc⟩ := resolveCmd_eq_some.1 hr
    exact ⟨id, resp, hs, ⟨c, tvs, hc, hl, hca, hh⟩, h2⟩

namespace Writer
variable {P : Writer → Prop}

theorem Kept.respond (hP : Kept P) (q : Bool) (w : Writer) (resp : Resp) (h : P w) :
    P (respond q w resp).1 := by
  have h1 := hP.calls (resp.calls ++ if q then [.direct [10]] else []) w h
  rw [respond_eq_calls]
  split
  · next w1 hw =>
    rw [hw] at h1
    cases q
    · exact h1
    · exact hP.flush w1 h1
  · next w1 e hw => rw [hw] at h1; exact h1

theorem Kept.execute {σ : Type} (hP : Kept P) (I : Iface σ) (call : CommandCall) (w : Writer)
    (s : σ) (h : P w) : P (execute I call w s).2.1 :=
  -- every case but the last returns the writer as it was
  execute_cases I call w s (motive := fun r => P r.2.1) (fun _ => h) (fun _ _ _ => h)
    (fun _ _ _ _ _ => h) (fun _ _ _ _ _ _ _ _ => h)
    (fun _ _ _ resp _ _ _ _ => hP.respond _ w resp h)

end Writer

end Scpi
