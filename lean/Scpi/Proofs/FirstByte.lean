/-
What the recognisers do with the first byte of their input.  The byte classes are stated as
linear arithmetic, so that a side goal about one byte is an `omega` after rewriting with them.
Every alternative of `argument` fails softly on a first byte that is not its own, so the
ordered choice is decided by the first byte.
-/
import Scpi.Proofs.Comb

namespace Scpi

theorem isWs_iff (b : Nat) : isWs b = true ↔ b ≤ 9 ∨ (11 ≤ b ∧ b ≤ 32) := by
  simp only [isWs, Bool.or_eq_true, Bool.and_eq_true, decide_eq_true_eq]

theorem isDigit_iff (b : Nat) : isDigit b = true ↔ 48 ≤ b ∧ b ≤ 57 := by
  simp only [isDigit, Bool.and_eq_true, decide_eq_true_eq]

theorem isAlpha_iff (b : Nat) :
    isAlpha b = true ↔ (65 ≤ b ∧ b ≤ 90) ∨ (97 ≤ b ∧ b ≤ 122) := by
  simp only [isAlpha, Bool.or_eq_true, Bool.and_eq_true, decide_eq_true_eq]

theorem isMnemonicTail_iff (b : Nat) : isMnemonicTail b = true ↔
    (((65 ≤ b ∧ b ≤ 90) ∨ (97 ≤ b ∧ b ≤ 122)) ∨ (48 ≤ b ∧ b ≤ 57)) ∨ b = 95 := by
  simp only [isMnemonicTail, isAlnum, Bool.or_eq_true, isAlpha_iff, isDigit_iff,
    beq_iff_eq]

theorem isHexDigit_iff (b : Nat) : isHexDigit b = true ↔
    ((48 ≤ b ∧ b ≤ 57) ∨ (65 ≤ b ∧ b ≤ 70)) ∨ (97 ≤ b ∧ b ≤ 102) := by
  simp only [isHexDigit, Bool.or_eq_true, isDigit_iff, Bool.and_eq_true, decide_eq_true_eq]

theorem isBinDigit_iff (b : Nat) : isBinDigit b = true ↔ b = 48 ∨ b = 49 := by
  simp only [isBinDigit, Bool.or_eq_true, beq_iff_eq]

theorem isOctDigit_iff (b : Nat) : isOctDigit b = true ↔ 48 ≤ b ∧ b < 56 := by
  simp only [isOctDigit, Bool.and_eq_true, decide_eq_true_eq]

theorem eq_false_of_iff {c : Bool} {p : Prop} (h : c = true ↔ p) (hp : ¬ p) : c = false :=
  Bool.eq_false_iff.mpr fun hc => hp (h.mp hc)

theorem isAlpha_toLower (b : Nat) : isAlpha (toLowerAscii b) = isAlpha b := by
  unfold toLowerAscii
  split
  · rw [Bool.eq_iff_iff, isAlpha_iff, isAlpha_iff]
    omega
  · rfl

theorem isMnemonicTail_toLower (b : Nat) :
    isMnemonicTail (toLowerAscii b) = isMnemonicTail b := by
  unfold toLowerAscii
  split
  · rw [Bool.eq_iff_iff, isMnemonicTail_iff, isMnemonicTail_iff]
    omega
  · rfl

theorem whitespace_soft {d : Nat} (r : Bytes) (h : isWs d = false) :
    whitespace (d :: r) = .soft (some (.std .InvalidCharacter)) := by
  simp only [whitespace, List.takeWhile_cons, List.dropWhile_cons, h, Bool.false_eq_true, if_false,
    ofErr_invalidCharacter]

theorem mnemonic_soft {b : Nat} (r : Bytes) (h : isAlpha b = false) :
    mnemonic (b :: r) = .soft (some (.std .InvalidCharacter)) := by
  simp only [mnemonic, satisfy_cons_false r h, PResult.bind]

theorem characters_soft {b : Nat} (r : Bytes) (h : isAlpha b = false) :
    characters (b :: r) = .soft (some (.std .InvalidCharacter)) := by
  simp only [characters, mnemonic_soft r h, PResult.bind]

theorem decimal_soft {b : Nat} (r : Bytes) (h1 : b ≠ 43) (h2 : b ≠ 45) (h3 : isDigit b = false)
    (h4 : b ≠ 46) : decimal (b :: r) = .soft (some (.std .InvalidCharacter)) := by
  simp only [decimal, mantissa, sign, digits, optP, tag_cons_ne r h1, tag_cons_ne r h2,
    tag_cons_ne r h4, satisfy_cons_false r h3, PResult.orElse, PResult.bind, PResult.map,
    Option.isSome_none, Bool.false_eq_true, if_false]

theorem nondecimal_soft_head {L D : Nat → Bool} (mk : Bytes → Value) {b : Nat} (r : Bytes)
    (h : b ≠ 35) : nondecimal L D mk (b :: r) = .soft (some (.std .InvalidCharacter)) := by
  simp only [nondecimal, tag_cons_ne r h, PResult.bind]

theorem nondecimal_soft_letter {L D : Nat → Bool} (mk : Bytes → Value) {c : Nat} (r : Bytes)
    (h : L c = false) :
    nondecimal L D mk (35 :: c :: r) = .soft (some (.std .InvalidCharacter)) := by
  simp only [nondecimal, tag_cons_self, satisfy_cons_false r h, PResult.bind]

theorem quoted_cons (q b : Nat) (t : Bytes) :
    quoted q (b :: t) = if b == q then
      (tag q (t.dropWhile fun c => c != q)).bind fun i3 _ =>
        fromUtf8 (t.takeWhile fun c => c != q) fun s => .ok i3 (.str s)
    else ofErr .InvalidCharacter := by
  unfold quoted
  rw [tag, satisfy_cons]
  cases b == q <;> rfl

theorem quoted_soft {q b : Nat} (r : Bytes) (h : b ≠ q) :
    quoted q (b :: r) = .soft (some (.std .InvalidCharacter)) := by
  rw [quoted_cons, if_neg (mt beq_iff_eq.mp h)]
  rfl

def blockPayload (cnt : Nat) (i3 : Bytes) : PResult Value :=
  if i3.length < cnt then .incomplete else .ok (i3.drop cnt) (.arb (i3.take cnt))

/-- `arbitrary` behind `#` and the digit that gives the number `nd` of length digits. -/
def blockBody (nd : Nat) (i2 : Bytes) : PResult Value :=
  if i2.length < nd then .incomplete else
  if !validUtf8 (i2.take nd) then ofErr .CommandError else
  match fromStrRadix false 64 10 (i2.take nd) with
  | none => ofErr .InvalidCharacterInNumber
  | some cnt => blockPayload cnt.toNat (i2.drop nd)

theorem arbitrary_eq (input : Bytes) :
    arbitrary input = (tag 35 input).bind fun i1 _ =>
      ((satisfy (fun c => decide (49 ≤ c) && decide (c ≤ 57)) i1).map fun v => v - 48).bind
        fun i2 nd => blockBody nd i2 := rfl

theorem arbitrary_cons (b : Nat) (t : Bytes) :
    arbitrary (b :: t) = if b == 35 then
      match t with
      | [] => .incomplete
      | d :: i2 =>
        if decide (49 ≤ d) && decide (d ≤ 57) then blockBody (d - 48) i2
        else ofErr .InvalidCharacter
    else ofErr .InvalidCharacter := by
  rw [arbitrary_eq, tag, satisfy_cons]
  cases b == 35 with
  | false => rw [if_neg Bool.false_ne_true, if_neg Bool.false_ne_true, ofErr_bind]
  | true =>
    rw [if_pos rfl, if_pos rfl]
    cases t with
    | nil => rfl
    | cons d i2 =>
      -- both sides with the outer `bind` and `match` reduced, so that the test on `d` shows
      show ((satisfy (fun c => decide (49 ≤ c) && decide (c ≤ 57)) (d :: i2)).map
          fun v => v - 48).bind _ =
        if decide (49 ≤ d) && decide (d ≤ 57) then blockBody (d - 48) i2
        else ofErr .InvalidCharacter
      rw [satisfy_cons]
      cases decide (49 ≤ d) && decide (d ≤ 57) with
      | false => rw [if_neg Bool.false_ne_true, if_neg Bool.false_ne_true, PD.ofErr_map, ofErr_bind]
      | true =>
        rw [if_pos rfl, if_pos rfl]
        simp only [PResult.map, PResult.bind]

theorem arbitrary_soft {b : Nat} (r : Bytes) (h : b ≠ 35) :
    arbitrary (b :: r) = .soft (some (.std .InvalidCharacter)) := by
  rw [arbitrary_cons, if_neg (mt beq_iff_eq.mp h)]
  rfl

theorem orNext_soft_orNext {α : Type} (a : PResult α) (e : Option Err) (b : Unit → PResult α) :
    (a.orNext fun _ => .soft e).orNext b = a.orNext b := by
  cases a <;> rfl

theorem argument_quote {q : Nat} (t : Bytes) (hq : q = 39 ∨ q = 34) :
    argument (q :: t) =
      (quoted q (q :: t)).orNext fun _ => .soft (some (.std .InvalidCharacter)) := by
  unfold argument singleQuoted doubleQuoted hexadecimal binary octal
  rcases hq with rfl | rfl
  · rw [characters_soft _ (by decide),
      decimal_soft _ (by decide) (by decide) (by decide) (by decide),
      nondecimal_soft_head _ _ (by decide), nondecimal_soft_head _ _ (by decide),
      nondecimal_soft_head _ _ (by decide), quoted_soft (q := 34) t (by decide),
      arbitrary_soft t (by decide), orNext_soft_orNext]
    rfl
  · rw [characters_soft _ (by decide),
      decimal_soft _ (by decide) (by decide) (by decide) (by decide),
      nondecimal_soft_head _ _ (by decide), nondecimal_soft_head _ _ (by decide),
      nondecimal_soft_head _ _ (by decide), quoted_soft (q := 39) t (by decide),
      arbitrary_soft t (by decide)]
    rfl

theorem argument_hash (t : Bytes) :
    argument (35 :: t) = (((hexadecimal (35 :: t)).orNext fun _ => binary (35 :: t)).orNext fun _ =>
      octal (35 :: t)).orNext fun _ => arbitrary (35 :: t) := by
  unfold argument singleQuoted doubleQuoted
  rw [characters_soft _ (by decide), decimal_soft _ (by decide) (by decide) (by decide) (by decide),
    quoted_soft (q := 39) t (by decide), quoted_soft (q := 34) t (by decide), orNext_soft_orNext,
    orNext_soft_orNext]
  rfl

theorem argument_other {b : Nat} (t : Bytes) (h39 : b ≠ 39) (h34 : b ≠ 34) (h35 : b ≠ 35) :
    argument (b :: t) = ((characters (b :: t)).orNext fun _ => decimal (b :: t)).orNext fun _ =>
      .soft (some (.std .InvalidCharacter)) := by
  unfold argument singleQuoted doubleQuoted hexadecimal binary octal
  rw [nondecimal_soft_head _ _ h35, nondecimal_soft_head _ _ h35, nondecimal_soft_head _ _ h35,
    quoted_soft t h39, quoted_soft t h34, arbitrary_soft t h35]
  simp only [orNext_soft_orNext]

theorem argument_head_soft {b : Nat} (r : Bytes) (hb : b ≤ 32 ∨ b = 59) :
    ∃ e, argument (b :: r) = .soft e := by
  refine ⟨some (.std .InvalidCharacter), ?_⟩
  rw [argument_other r (by omega) (by omega) (by omega),
    characters_soft r (eq_false_of_iff (isAlpha_iff b) (by omega)),
    decimal_soft r (by omega) (by omega) (eq_false_of_iff (isDigit_iff b) (by omega)) (by omega)]
  rfl

theorem arguments_head_soft {b : Nat} (r : Bytes) (hb : b ≤ 32 ∨ b = 59) :
    ∃ e, arguments (b :: r) = (.soft e, []) := by
  obtain ⟨e, he⟩ := argument_head_soft r hb
  refine ⟨e, ?_⟩
  unfold arguments
  rw [he]

theorem parseTail_head_soft (nh : Node × Option Node) (q : Bool) (args : List Value) {b : Nat}
    (r : Bytes) (hws : isWs b = false) (h59 : b ≠ 59) (h10 : b ≠ 10) :
    parseTail nh q (b :: r) args = .soft (some (.std .InvalidCharacter)) := by
  have e : optP whitespace (b :: r) = .ok (b :: r) none := by
    simp only [optP, whitespace_soft r hws]
  simp only [parseTail, e, PResult.bind, tag_cons_ne r h10, tag_cons_ne r h59, PResult.map,
    PResult.orElse]

end Scpi
