/-
What `execute` (Exec.lean) hands the writer for a query: the values none of whose calls is a
refusal of `write_response` (`calls_no_fail`), and, for such a value on a writer with room,
exactly `resp.encode`, a newline and one flush (`execute_query_writes`).
-/
import Scpi.Proofs.Execute
import Scpi.Proofs.RespDecode
import Scpi.Proofs.RespWriter

namespace Scpi
open C04

/-- The only refusal of `write_response` is a block of 10^9 bytes or more. -/
def LeafBlockOk : Resp → Prop
  | .arb s => s.length < 10 ^ 9
  | _ => True

theorem leafBlockOk_of_leafWF (r : Resp) (h : r.LeafWF) : LeafBlockOk r := by
  cases r with
  | arb s => exact h
  | _ => trivial

theorem quotedGo_no_fail : ∀ (ps : List Bytes) (first : Bool),
    ∀ c ∈ quotedCalls.go ps first, c.isFail = false
  | [], _ => by simp [quotedCalls.go]
  | p :: ps, first => by
    rw [quotedCalls.go, List.forall_mem_append, List.forall_mem_append]
    exact ⟨⟨by cases first <;> simp, by simp⟩, quotedGo_no_fail ps false⟩

theorem quoted_no_fail (s : Bytes) : ∀ c ∈ quotedCalls s, c.isFail = false := by
  rw [quotedCalls, List.forall_mem_append, List.forall_mem_append]
  exact ⟨⟨by simp, quotedGo_no_fail _ _⟩, by simp⟩

theorem floatCalls_no_fail (f : FloatFmt) (b : Nat) : ∀ c ∈ floatCalls f b, c.isFail = false := by
  unfold floatCalls
  cases f.isNan b
  · cases f.isInf b
    · simp
    · cases f.negOf b <;> simp
  · simp

mutual
theorem calls_no_fail : ∀ r : Resp, Resp.All LeafBlockOk r → ∀ c ∈ r.calls, c.isFail = false
  | .unit | .bool _ | .int _ | .chars _ => fun _ => by simp [Resp.calls]
  | .f32 b | .f64 b => fun _ => floatCalls_no_fail _ b
  | .str s => fun _ => quoted_no_fail s
  | .err e => fun _ => by
    rw [Resp.calls, List.forall_mem_append]
    exact ⟨by simp, quoted_no_fail _⟩
  | .arb s => fun h => by
    have hk : ¬ (natDigits s.length).length > 9 :=
      Nat.not_lt.2 ((natDigits_length_le_iff s.length 9 (by decide)).2 h)
    simp only [Resp.calls, hk, if_false]
    split <;> simp
  | .seq l => seqCalls_no_fail l true
theorem seqCalls_no_fail : ∀ (l : List Resp) (first : Bool), Resp.AllL LeafBlockOk l →
    ∀ c ∈ Resp.seqCalls l first, c.isFail = false
  | [], _, _ => by simp [Resp.seqCalls]
  | r :: rs, first, h => by
    rw [Resp.seqCalls, List.forall_mem_append, List.forall_mem_append]
    exact ⟨⟨by cases first <;> simp, calls_no_fail r h.1⟩, seqCalls_no_fail rs false h.2⟩
end

theorem wf_no_fail (r : Resp) (h : r.WF) : ∀ c ∈ r.calls, c.isFail = false :=
  calls_no_fail r (all_mono leafBlockOk_of_leafWF r h)

theorem encode_eq_callsBytes (r : Resp) : r.encode = callsBytes r.calls := rfl

theorem respond_query_ok {w w' : Writer} {resp : Resp} (h : respond true w resp = (w', .ok)) :
    w'.cap = w.cap ∧ w'.buf = w.buf ++ resp.encode ++ [10] ∧
      ∃ ws : List Bytes, w'.evs = w.evs ++ ws.map WEv.w ++ [WEv.f] ∧
        ws.flatten = resp.encode ++ [10] := by
  obtain ⟨w1, h1, h2⟩ := (respond_ok_iff true w w' resp).1 h
  obtain ⟨_, w2, h3, rfl⟩ := h2.resolve_left fun h => nomatch h.1
  obtain ⟨hc, hb, ws, hev, hfl⟩ := (Writer.calls_ok _ _ _ h1).trans (Writer.call_ok h3)
  rw [← List.append_assoc] at hb
  exact ⟨hc, hb, ws, by simp only [Writer.flush, hev], hfl⟩

theorem respond_query_fits {w : Writer} {resp : Resp} (hnf : ∀ c ∈ resp.calls, c.isFail = false)
    (hfits : w.fits (resp.encode.length + 1) = true) : ∃ w', respond true w resp = (w', .ok) := by
  have hroom : w.fits (callsBytes (resp.calls ++ [.direct [10]])).length = true := by
    rw [callsBytes_append, List.length_append]
    exact hfits
  obtain ⟨w1, hw1⟩ := Writer.calls_fits _ w (List.forall_mem_append.2 ⟨hnf, by simp⟩) hroom
  exact ⟨w1.flush, by simp only [respond_eq_calls, ↓reduceIte, hw1]⟩

theorem execute_query_writes {σ : Type} {I : Iface σ} {call : CommandCall} {w : Writer} {s s' : σ}
    {id : Nat} {resp : Resp} (hq : call.query = true) (hslot : call.node.query = some id)
    (hret : Returned I id call.args s s' resp) (hnf : ∀ c ∈ resp.calls, c.isFail = false)
    (hfits : w.fits (resp.encode.length + 1) = true) :
    ∃ w', execute I call w s = (s', w', .ok) ∧
      w'.cap = w.cap ∧ w'.buf = w.buf ++ resp.encode ++ [10] ∧
      ∃ ws : List Bytes, w'.evs = w.evs ++ ws.map WEv.w ++ [WEv.f] ∧
        ws.flatten = resp.encode ++ [10] := by
  obtain ⟨w', hw'⟩ := respond_query_fits hnf hfits
  refine ⟨w', ?_, respond_query_ok hw'⟩
  rw [execute_returned ((callSlot_query hq).trans hslot) hret, hq, hw']

end Scpi
