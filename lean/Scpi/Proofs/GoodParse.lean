/-
`Good` for the argument list, the header recognisers and `parse`; `parse` never crashes and
consumes at least one byte when it succeeds (T12.2).  The part of `parse` behind the header is
walked through once (`RCall`): what is known of a result there gives both `parse_strict` and
the description of the accepted call (`parse_call`).
-/
import Scpi.Proofs.Fuel

namespace Scpi

theorem rgood_argStep {args : List Value} {x : Bytes}
    {k : Bytes → Value → PResult Unit × List Value}
    (hk : ∀ i arg, argument x = .ok i arg → RGood i (k i arg).1) :
    RGood x (argStep args x k).1 := by
  unfold argStep
  cases ha : argument x with
  | ok i arg => exact (hk i arg ha).mono ((good_argument x).suffix _ _ ha)
  | crash c => exact absurd ha ((good_argument x).noCrash c)
  | _ => exact ⟨fun _ h => (by cases h), fun _ _ h => (by cases h)⟩

theorem argsRun_good :
    ∀ (args : List Value) (input : Bytes), RGood input (argsRun args input).1 := by
  refine argsRun_induct fun args input ih => ?_
  rw [argsRun_eq]
  cases hs : argumentSeparator input with
  | ok i u =>
    refine (rgood_argStep fun i2 arg ha => ?_).mono ((good_argumentSeparator input).suffix _ _ hs)
    split
    · exact ih i u i2 arg hs ha
    · exact rgood_ofErr (e := .UnexpectedNumberOfParameters)
  | soft e => exact rgood_ok (List.suffix_refl _)
  | crash c => exact absurd hs ((good_argumentSeparator input).noCrash c)
  | _ => exact ⟨fun _ h => (by cases h), fun _ _ h => (by cases h)⟩

theorem arguments_good (input : Bytes) : RGood input (arguments input).1 := by
  rw [arguments_eq]
  exact rgood_argStep fun i arg _ => argsRun_good [arg] i

theorem argsRun_length : ∀ (args : List Value) (input : Bytes),
    args.length ≤ maxArgs → (argsRun args input).2.length ≤ maxArgs := by
  refine argsRun_induct fun args input ih h => ?_
  rw [argsRun_eq]
  cases hs : argumentSeparator input with
  | ok i u =>
    simp only [argStep]
    cases ha : argument i with
    | ok i2 arg =>
      simp only []
      split
      · refine ih i u i2 arg hs ha ?_
        rw [List.length_append, List.length_singleton]
        omega
      · exact h
    | _ => exact h
  | _ => exact h

/-- Also when `arguments` fails: the Rust code leaves the partly filled vector behind. -/
theorem arguments_length (input : Bytes) : (arguments input).2.length ≤ maxArgs := by
  rw [arguments_eq, argStep]
  cases argument input with
  | ok i arg => exact argsRun_length [arg] i (show 1 ≤ maxArgs by decide)
  | _ => exact Nat.zero_le _

theorem rgood_lookup {α : Type} {input : Bytes} {node : Node} {name : Bytes}
    {k : Node → PResult α} (hk : ∀ n, RGood input (k n)) :
    RGood input (lookup node name k) := by
  unfold lookup
  refine rgood_fromUtf8 fun s => ?_
  split
  · exact hk _
  · exact rgood_ofErr

theorem good_commonHeader (root : Node) : Good (commonHeader root) := by
  intro input
  unfold commonHeader
  refine rgood_bind (rgood_mapErr (good_tag 42 input)) fun i1 star _ h1 => ?_
  refine rgood_bind ((good_mnemonic i1).mono h1) fun i2 res _ h2 => ?_
  exact rgood_lookup fun n => rgood_ok h2

theorem headerRun_good : ∀ (node header : Node) (input : Bytes),
    RGood input (headerRun node header input) := by
  refine headerRun_induct fun node header input ih => ?_
  rw [headerRun_eq]
  cases hs : headerSeparator input with
  | ok i u =>
    have hi := (good_headerSeparator input).suffix _ _ hs
    simp only []
    refine rgood_bind ((good_mnemonic i).mono hi) fun i2 res e2 h2 => ?_
    exact rgood_lookup fun child => (ih i u i2 res child hs e2).mono h2
  | soft e => exact rgood_ok (List.suffix_refl _)
  | crash c => exact absurd hs ((good_headerSeparator input).noCrash c)
  | _ => exact ⟨fun _ h => (by cases h), fun _ _ h => (by cases h)⟩

theorem good_compoundHeader (root header : Node) : Good (compoundHeader root header) := by
  intro input
  unfold compoundHeader
  refine rgood_bind (good_optP good_headerSeparator input) fun i1 rc _ h1 => ?_
  simp only []
  refine rgood_bind ((good_mnemonic i1).mono h1) fun i2 res _ h2 => ?_
  -- the `headerLoop (i2.length + 1)` of `compoundHeader` is `headerRun` by definition
  exact rgood_lookup fun n => (headerRun_good n _ i2).mono h2

theorem good_commandHeader (root header : Node) : Good (commandHeader root header) := by
  intro input
  unfold commandHeader
  exact rgood_orElse (good_compoundHeader root header input) (good_commonHeader root input)

structure RStrict {α : Type} (input : Bytes) (r : PResult α) : Prop extends RGood input r where
  term : ∀ rest v, r = .ok rest v → ∃ t, (t = 10 ∨ t = 59) ∧ t :: rest <:+ input

theorem RStrict.lt {α : Type} {input : Bytes} {r : PResult α} (h : RStrict input r) (rest : Bytes)
    (v : α) (e : r = .ok rest v) : rest.length < input.length := by
  obtain ⟨t, _, hs⟩ := h.term rest v e
  exact hs.length_le

theorem rstrict_bind {α β : Type} {input : Bytes} {r : PResult α}
    {k : Bytes → α → PResult β} (h : RGood input r)
    (hk : ∀ rest v, r = .ok rest v → rest <:+ input → RStrict input (k rest v)) :
    RStrict input (r.bind k) := by
  cases r with
  | ok rest v => exact hk rest v rfl (h.suffix rest v rfl)
  | crash c => exact absurd rfl (h.noCrash c)
  | _ =>
    exact ⟨⟨fun _ h => (by cases h), fun _ _ h => (by cases h)⟩, fun _ _ h => (by cases h)⟩

structure RCall (nh : Node × Option Node) (q : Bool) (args : List Value) (input : Bytes)
    (r : PResult (Option CommandCall)) : Prop where
  noCrash : ∀ c, r ≠ .crash c
  call : ∀ rest oc, r = .ok rest oc → ∃ t, oc = some ⟨nh.1, nh.2, q, args, t⟩ ∧
    (if t = true then 10 else 59) :: rest <:+ input

theorem RCall.strict {nh : Node × Option Node} {q : Bool} {args : List Value} {input : Bytes}
    {r : PResult (Option CommandCall)} (h : RCall nh q args input r) : RStrict input r := by
  refine ⟨⟨h.noCrash, fun rest oc e => ?_⟩, fun rest oc e => ?_⟩
  · obtain ⟨t, _, hs⟩ := h.call rest oc e
    exact (List.suffix_cons _ _).trans hs
  · obtain ⟨t, _, hs⟩ := h.call rest oc e
    exact ⟨_, by cases t <;> simp, hs⟩

theorem parseTail_rcall {input i6 : Bytes} (nh : Node × Option Node) (q : Bool) (args : List Value)
    (h6 : i6 <:+ input) : RCall nh q args input (parseTail nh q i6 args) := by
  unfold parseTail
  refine ⟨RGood.noCrash (input := i6) ?_, fun rest oc h => ?_⟩
  · refine rgood_bind (good_optP good_whitespace i6) fun i7 _ _ h7 => ?_
    have hg := rgood_orElse (b := fun _ => (tag 59 i7).map fun _ => false)
      (rgood_map (f := fun _ => true) ((good_tag 10 i7).mono h7))
      (rgood_map ((good_tag 59 i7).mono h7))
    exact rgood_bind hg fun i8 _ _ h8 => rgood_ok h8
  · obtain ⟨i7, _, e7, h⟩ := bind_eq_ok h
    obtain ⟨i8, t, e8, h⟩ := bind_eq_ok h
    cases h
    have h7 := ((good_optP good_whitespace i6).suffix _ _ e7).trans h6
    refine ⟨t, rfl, ?_⟩
    rcases orElse_eq_ok e8 with e | e
    · obtain ⟨_, e', rfl⟩ := map_eq_ok e
      exact tag_ok_cons e' ▸ h7
    · obtain ⟨_, e', rfl⟩ := map_eq_ok e
      exact tag_ok_cons e' ▸ h7

theorem parseArgs_rcall {input i5 : Bytes} (nh : Node × Option Node) (q : Bool) (hasArgs : Bool)
    (h5 : i5 <:+ input) :
    RCall nh q (if hasArgs = true then (arguments i5).2 else []) input
      (parseArgs nh q i5 hasArgs) := by
  unfold parseArgs
  cases hasArgs with
  | false => exact parseTail_rcall nh q [] h5
  | true =>
    have ha := arguments_good i5
    cases h : arguments i5 with
    | mk res args =>
      rw [h] at ha
      cases res with
      | ok i6 u => exact parseTail_rcall nh q args ((ha.suffix i6 u rfl).trans h5)
      -- a soft failure of `arguments` is passed over, and the vector it filled stays
      | soft e => exact parseTail_rcall nh q args h5
      | crash c => exact absurd rfl (ha.noCrash c)
      | _ => exact ⟨fun _ h => (by cases h), fun _ _ h => (by cases h)⟩

theorem queryMark_suffix (i3 : Bytes) : (queryMark i3).1 <:+ i3 := by
  unfold queryMark
  split
  · next r b e => exact (good_tag 63 i3).suffix _ _ e
  · exact List.suffix_refl _

/-- `i5` is not tied to `i3`: of the parameters the statement keeps only that they are an output
of `arguments`, which is enough for `arguments_length`. -/
theorem parseAfterHeader_rcall {input i3 : Bytes} (nh : Node × Option Node) (h3 : i3 <:+ input) :
    ∃ i5 b, RCall nh (queryMark i3).2 (if b = true then (arguments i5).2 else []) input
      (parseAfterHeader nh i3) := by
  unfold parseAfterHeader
  have hq := (queryMark_suffix i3).trans h3
  cases e5 : whitespace (queryMark i3).1 with
  | ok i5 w5 =>
    exact ⟨i5, true, parseArgs_rcall nh _ true (((good_whitespace _).suffix _ _ e5).trans hq)⟩
  | soft e => exact ⟨[], false, parseArgs_rcall nh _ false hq⟩
  | crash c => exact absurd e5 ((good_whitespace _).noCrash c)
  | _ => exact ⟨[], false, fun _ h => (by cases h), fun _ _ h => (by cases h)⟩

/-- C05 / C12: `parse` never crashes and, when it accepts, consumes at least one byte, the last
of which is the terminator. -/
theorem parse_strict (root header : Node) (input : Bytes) :
    RStrict input (parse root header input) := by
  unfold parse
  refine rstrict_bind (good_optP good_whitespace input) fun i1 _ _ h1 => ?_
  refine rstrict_bind ((good_optP (good_tag 10) i1).mono h1) fun i2 t e2 h2 => ?_
  cases t with
  | some v =>
    -- the empty message: the terminator was consumed
    rw [tag_ok_cons (optP_eq_ok_some e2)] at h1
    refine ⟨rgood_ok h2, fun rest _ h => ?_⟩
    cases h
    exact ⟨10, Or.inl rfl, h1⟩
  | none =>
    refine rstrict_bind ((good_commandHeader root header i2).mono h2) fun i3 nh _ h3 => ?_
    obtain ⟨_, _, h⟩ := parseAfterHeader_rcall nh h3
    exact h.strict

end Scpi
