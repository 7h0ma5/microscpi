/-
Each literal recogniser but `arbitrary` (`Scpi/Proofs/RenderArg.lean`), on the rendering of
a well-formed literal followed by bytes that do not extend it, takes exactly that text and
delivers the text (or payload) verbatim (C03 lexer part, C08 recogniser part).
-/
import Scpi.Proofs.RenderComb

namespace Scpi

theorem characters_append {s rest : Bytes} (hs : isMnemonicText s = true)
    (he : Ends isMnemonicTail rest) : characters (s ++ rest) = .ok rest (.chars s) := by
  simp only [characters, mnemonic_append hs he, PResult.bind,
    fromUtf8_valid _ (validUtf8_mnemonic hs)]

theorem optP_sign_toList {s : Option Nat} {rest : Bytes} (hs : isSignOpt s = true)
    (he : Ends (fun b => b == 43 || b == 45) rest) : optP sign (s.toList ++ rest) = .ok rest s := by
  rw [sign_eq_satisfy]
  cases s with
  | none => exact optP_satisfy_ends he
  | some c => exact optP_satisfy_cons rest hs

theorem digit_not_sign (b : Nat) (h : isDigit b = true) : (b == 43 || b == 45) = false := by
  rw [isDigit_iff] at h
  simp only [Bool.or_eq_false_iff, beq_eq_false_iff_ne]
  omega

theorem DecText.wf_parts {d : DecText} (hw : d.wf = true) :
    isSignOpt d.sign = true ∧ d.int.all isDigit = true ∧ d.frac.all isDigit = true ∧
    (d.dot = true ∨ d.frac = []) ∧ (d.int = [] → d.frac ≠ []) ∧
    ∀ e s ds, d.exp = some (e, s, ds) →
      (e = 69 ∨ e = 101) ∧ isSignOpt s = true ∧ ds.all isDigit = true ∧ ds ≠ [] := by
  simp only [DecText.wf, Bool.and_eq_true, Bool.or_eq_true, List.isEmpty_iff, Bool.not_eq_true',
    List.isEmpty_eq_false_iff] at hw
  obtain ⟨⟨⟨⟨⟨hs, hi⟩, hf⟩, hdf⟩, hne⟩, hx⟩ := hw
  refine ⟨hs, hi, hf, hdf, fun h0 hf0 => hne (by rw [h0, hf0]; rfl), fun e s ds he => ?_⟩
  rw [he] at hx
  simpa only [Bool.and_eq_true, Bool.or_eq_true, beq_iff_eq, Bool.not_eq_true',
    List.isEmpty_eq_false_iff, and_assoc] using hx

/-- `mantissa` drops the value of its fourth stage, which differs from branch to branch of
`mantissa_render`: hence `∃ v4`. -/
theorem mantissa_of_stages {input i1 i2 i3 R M : Bytes} {v1 v3 : Option Nat} {d1 : Option Bytes}
    (e1 : optP sign input = .ok i1 v1) (e2 : optP digits i1 = .ok i2 d1)
    (e3 : optP (tag 46) i2 = .ok i3 v3)
    (e4 : ∃ v4, (if d1.isSome then optP digits i3 else (digits i3).map some) = .ok R v4)
    (hM : input = M ++ R) : mantissa input = .ok R M := by
  obtain ⟨v4, e4⟩ := e4
  simp only [mantissa, e1, e2, e3, e4, PResult.bind, consumed_of_eq _ hM]

theorem mantissa_render {d : DecText} {R : Bytes} (hw : d.wf = true) (h1 : Ends isDigit R)
    (h2 : Ends (fun b => b == 46) R) :
    mantissa (d.renderMantissa ++ R) = .ok R d.renderMantissa := by
  obtain ⟨hs, hi, hf, hdf, hne, _⟩ := DecText.wf_parts hw
  have e46 : ∀ Y, optP (tag 46) (46 :: Y) = .ok Y (some 46) := fun Y =>
    optP_satisfy_cons Y (by decide)
  have hE : ∀ Y, Ends isDigit (46 :: Y) := fun Y => ends_cons (by decide)
  unfold DecText.renderMantissa
  -- the parser branches on whether there are integer digits: without them a fraction digit
  -- is required (and `DecText.wf` gives the point)
  by_cases hint : d.int = []
  · simp only [hint, hdf.resolve_right (hne hint), if_true, List.append_assoc, List.nil_append,
      List.cons_append]
    refine mantissa_of_stages (optP_sign_toList hs (ends_cons (by decide)))
      (optP_digits_append (ds := []) rfl (hE _)) (e46 _) ?_
      (by simp only [List.append_assoc, List.cons_append])
    rw [if_neg (by decide), digits_append (hne hint) hf h1]
    exact ⟨_, rfl⟩
  · have hS : ∀ Y, Ends (fun b => b == 43 || b == 45) (d.int ++ Y) := fun Y =>
      ends_append_of_all Y hint hi digit_not_sign
    cases hd : d.dot with
    | true =>
      simp only [if_true, List.append_assoc, List.cons_append, List.nil_append]
      refine mantissa_of_stages (optP_sign_toList hs (hS _)) (optP_digits_append hi (hE _))
        (e46 _) ?_ (by simp only [List.append_assoc, List.cons_append])
      rw [if_neg hint]
      exact ⟨_, optP_digits_append hf h1⟩
    | false =>
      simp only [hdf.resolve_left (by rw [hd]; decide), Bool.false_eq_true, if_false,
        List.append_nil, List.append_assoc]
      refine mantissa_of_stages (optP_sign_toList hs (hS _)) (optP_digits_append hi h1)
        (optP_satisfy_ends h2) ?_ (List.append_assoc _ _ _).symm
      rw [if_neg hint]
      exact ⟨_, optP_digits_append (ds := []) rfl h1⟩

theorem exponent_render {e : Nat} {s : Option Nat} {ds rest : Bytes}
    (he : e = 69 ∨ e = 101) (hs : isSignOpt s = true) (hd : ds.all isDigit = true)
    (hne : ds ≠ []) (h1 : Ends isDigit rest) :
    exponent (e :: (s.toList ++ ds) ++ rest) = .ok rest (e :: (s.toList ++ ds)) := by
  have he' : (e == 69 || e == 101) = true := by simpa only [Bool.or_eq_true, beq_iff_eq] using he
  simp only [exponent, List.cons_append, List.append_assoc,
    satisfy_cons_true (p := fun c => c == 69 || c == 101) _ he', PResult.bind,
    optP_sign_toList hs (ends_append_of_all rest hne hd digit_not_sign), digits_append hne hd h1]
  exact consumed_of_eq _ (by simp only [List.append_assoc, List.cons_append])

theorem optP_exponent_ends {rest : Bytes} (he : Ends (fun c => c == 69 || c == 101) rest) :
    optP exponent rest = .ok rest none := by
  cases rest with
  | nil => rfl
  | cons d r =>
    simp only [optP, exponent, satisfy_cons_false (p := fun c => c == 69 || c == 101) r he.head,
      PResult.bind]

/-- Signs, digits, the point and the exponent letter: all from `+` (43) to `e` (101). -/
theorem DecText.render_bytes {d : DecText} (hw : d.wf = true) :
    ∀ b ∈ d.render, 43 ≤ b ∧ b ≤ 101 := by
  obtain ⟨hs, hi, hf, _, _, hx⟩ := DecText.wf_parts hw
  have hsign : ∀ {s : Option Nat}, isSignOpt s = true → ∀ b ∈ s.toList, 43 ≤ b ∧ b ≤ 101 := by
    intro s hs b hb
    cases s with
    | none => cases hb
    | some c =>
      simp only [Option.toList, List.mem_singleton] at hb
      simp only [isSignOpt, Bool.or_eq_true, beq_iff_eq] at hs
      omega
  have hdig : ∀ {ds : Bytes}, ds.all isDigit = true → ∀ b ∈ ds, 43 ≤ b ∧ b ≤ 101 := by
    intro ds h b hb
    have := (isDigit_iff b).mp (List.all_eq_true.mp h b hb)
    omega
  have hexp : ∀ b ∈ DecText.renderExp d.exp, 43 ≤ b ∧ b ≤ 101 := by
    cases hexp : d.exp with
    | none => exact fun _ hb => nomatch hb
    | some x =>
      obtain ⟨e, s, ds⟩ := x
      obtain ⟨he, hs', hd', _⟩ := hx e s ds hexp
      simp only [DecText.renderExp, List.forall_mem_cons, List.forall_mem_append]
      exact ⟨by omega, hsign hs', hdig hd'⟩
  simp only [DecText.render, DecText.renderMantissa, List.forall_mem_append]
  exact ⟨⟨hsign hs, hdig hi, by cases d.dot <;> decide, hdig hf⟩, hexp⟩

theorem decimal_render {d : DecText} {rest : Bytes} (hw : d.wf = true)
    (he : Ends (fun b => isDigit b || b == 46 || b == 69 || b == 101) rest) :
    decimal (d.render ++ rest) = .ok rest (.dec d.render) := by
  have hcls : ∀ b, (isDigit b || b == 46 || b == 69 || b == 101) = false →
      isDigit b = false ∧ (b == 46) = false ∧ (b == 69 || b == 101) = false := fun b h => by
    simpa only [Bool.or_eq_false_iff, and_assoc] using h
  have hdig : Ends isDigit rest := he.mono fun b h => (hcls b h).1
  have hv := validUtf8_ascii fun b hb =>
    Nat.lt_of_le_of_lt (DecText.render_bytes hw b hb).2 (by decide)
  -- the exponent, when written, is taken; its letter ends the mantissa
  obtain ⟨v, e2, hR1, hR2⟩ : ∃ v, optP exponent (DecText.renderExp d.exp ++ rest) = .ok rest v ∧
      Ends isDigit (DecText.renderExp d.exp ++ rest) ∧
      Ends (fun b => b == 46) (DecText.renderExp d.exp ++ rest) := by
    cases hx : d.exp with
    | none =>
      exact ⟨_, optP_exponent_ends (he.mono fun b h => (hcls b h).2.2), hdig,
        he.mono fun b h => (hcls b h).2.1⟩
    | some x =>
      obtain ⟨e, s, ds⟩ := x
      obtain ⟨hee, hs, hd, hne⟩ := (DecText.wf_parts hw).2.2.2.2.2 e s ds hx
      exact ⟨some (e :: (s.toList ++ ds)),
        by simp only [optP, DecText.renderExp, exponent_render hee hs hd hne hdig],
        ends_cons (eq_false_of_iff (isDigit_iff e) (by omega)),
        ends_cons (beq_eq_false_iff_ne.mpr (by omega))⟩
  unfold decimal DecText.render at *
  rw [List.append_assoc, mantissa_render hw hR1 hR2]
  simp only [PResult.bind, e2]
  rw [consumed_of_eq _ (List.append_assoc _ _ _).symm, fromUtf8_valid _ hv]

theorem DecText.render_head {d : DecText} (hw : d.wf = true) :
    ∃ b r, d.render = b :: r ∧ (b = 43 ∨ b = 45 ∨ isDigit b = true ∨ b = 46) := by
  obtain ⟨hs, hi, _, hdf, hne, _⟩ := DecText.wf_parts hw
  unfold DecText.render DecText.renderMantissa
  cases hsg : d.sign with
  | some c =>
    rw [hsg] at hs
    simp only [isSignOpt, Bool.or_eq_true, beq_iff_eq] at hs
    exact ⟨c, _, rfl, by omega⟩
  | none =>
    cases hint : d.int with
    | cons b t =>
      rw [hint] at hi
      simp only [List.all_cons, Bool.and_eq_true] at hi
      exact ⟨b, _, rfl, Or.inr (Or.inr (Or.inl hi.1))⟩
    | nil =>
      rw [hdf.resolve_right (hne hint)]
      exact ⟨46, _, rfl, Or.inr (Or.inr (Or.inr rfl))⟩

theorem nondecimal_render {L D : Nat → Bool} (mk : Bytes → Value) {c : Nat} {ds rest : Bytes}
    (hc : L c = true) (hne : ds ≠ []) (hd : ds.all D = true) (hlt : ∀ b, D b = true → b < 128)
    (he : Ends D rest) : nondecimal L D mk (35 :: c :: (ds ++ rest)) = .ok rest (mk ds) := by
  cases ds with
  | nil => exact absurd rfl hne
  | cons b t =>
    have hv : validUtf8 (b :: t) = true := validUtf8_of_all hlt hd
    simp only [List.all_cons, Bool.and_eq_true] at hd
    simp only [nondecimal, tag_cons_self, PResult.bind, satisfy_cons_true _ hc, List.cons_append,
      satisfy_cons_true _ hd.1, takeWhileP_append hd.2 he]
    rw [consumed_of_eq (input := b :: (t ++ rest)) (t := b :: t) _ rfl, fromUtf8_valid _ hv]

theorem all_bne_of_forall_ne {q : Nat} {payload : Bytes} (h : ∀ b ∈ payload, b ≠ q) :
    payload.all (fun c => c != q) = true :=
  List.all_eq_true.mpr fun b hb => bne_iff_ne.mpr (h b hb)

theorem quoted_render (q : Nat) {payload : Bytes} (rest : Bytes) (hv : validUtf8 payload = true)
    (hq : payload.all (fun c => c != q) = true) :
    quoted q (q :: (payload ++ q :: rest)) = .ok rest (.str payload) := by
  have he : Ends (fun c => c != q) (q :: rest) := ends_cons (bne_self_eq_false q)
  simp only [quoted, tag_cons_self, PResult.bind, takeWhileP_append hq he, fromUtf8_valid _ hv]

end Scpi
