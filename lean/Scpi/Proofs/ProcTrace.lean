/-
The adapter-call trace of `process` (C10): its shape, what is written and the call counter, all in
one invariant `TInv` on the loop state that is pushed through the steps and loops; how the run ends
is `StopOK`/`OutOK` on top of it.

The shape of a trace is said twice: as the inductive `Complete`/`Gram`, which the invariant carries
because the loops append to the trace, and as the two-state recogniser `wfRun`, which reads a trace
from the front and so answers questions about positions in it.  The first implies the second
(`gram_wfRun`).
-/
import Scpi.Proofs.ProcInv

namespace Scpi
namespace Proc

inductive Complete : List PEv → Prop where
  | nil : Complete []
  | read {t : List PEv} (d l : Nat) : Complete t → Complete (t ++ [PEv.r d l])
  | resp {t : List PEv} {b : Bytes} : Complete t → b ≠ [] → Complete (t ++ [PEv.w b, PEv.f])

/-- `pending`: the trace may end with one write whose flush did not succeed. -/
def Gram (pending : Bool) (t : List PEv) : Prop :=
  Complete t ∨ (pending = true ∧ ∃ pre b, t = pre ++ [PEv.w b] ∧ Complete pre ∧ b ≠ [])

theorem gram_false {t : List PEv} : Gram false t ↔ Complete t := by
  constructor
  · intro h
    cases h with
    | inl h => exact h
    | inr h => cases h.1
  · exact .inl

theorem Gram.weaken {t : List PEv} (h : Gram false t) : Gram true t :=
  .inl (gram_false.mp h)

/-- State `some false`: between exchanges; `some true`: a write has succeeded and its flush
is due; `none`: ill-formed. -/
def wfStep : Option Bool → PEv → Option Bool
  | some false, .r _ _ => some false
  | some false, .w b => if b = [] then none else some true
  | some true, .f => some false
  | _, _ => none

def wfRun (s : Option Bool) (t : List PEv) : Option Bool := t.foldl wfStep s

theorem wfRun_append (s : Option Bool) (t u : List PEv) :
    wfRun s (t ++ u) = wfRun (wfRun s t) u :=
  List.foldl_append

theorem wfRun_none (t : List PEv) : wfRun none t = none := by
  induction t with
  | nil => rfl
  | cons e t ih => exact ih

theorem complete_wfRun {t : List PEv} (h : Complete t) : wfRun (some false) t = some false := by
  induction h with
  | nil => rfl
  | read d l _ ih =>
    rw [wfRun_append, ih]
    rfl
  | resp _ hb ih =>
    rw [wfRun_append, ih]
    simp [wfRun, wfStep, hb]

theorem gram_wfRun {p : Bool} {t : List PEv} (h : Gram p t) :
    wfRun (some false) t = some false ∨ (p = true ∧ wfRun (some false) t = some true) := by
  rcases h with h | ⟨hp, pre, b, rfl, hc, hb⟩
  · exact .inl (complete_wfRun h)
  · refine .inr ⟨hp, ?_⟩
    rw [wfRun_append, complete_wfRun hc]
    simp [wfRun, wfStep, hb]

theorem wfRun_cons_ne_none {s : Option Bool} {e : PEv} {t : List PEv}
    (h : wfRun s (e :: t) ≠ none) :
    wfStep s e ≠ none ∧ wfRun (wfStep s e) t ≠ none :=
  ⟨fun h0 => h ((congrArg (wfRun · t) h0).trans (wfRun_none t)), h⟩

theorem wfStep_w {s : Option Bool} {b : Bytes} (h : wfStep s (.w b) ≠ none) :
    b ≠ [] ∧ wfStep s (.w b) = some true := by
  rcases s with _ | _ | _ <;> simp [wfStep] at h ⊢
  exact h

theorem wfStep_f {s : Option Bool} (h : wfStep s .f ≠ none) : s = some true := by
  rcases s with _ | _ | _ <;> simp [wfStep] at h ⊢

theorem wfStep_true {e : PEv} (h : wfStep (some true) e ≠ none) : e = .f := by
  cases e <;> simp [wfStep] at h ⊢

theorem wfStep_eq_true {s : Option Bool} {e : PEv} (h : wfStep s e = some true) :
    ∃ b, e = .w b := by
  rcases s with _ | _ | _ <;> cases e <;> simp [wfStep] at h ⊢

theorem wfRun_write : ∀ (t : List PEv) (s : Option Bool), wfRun s t ≠ none →
    ∀ i b, t[i]? = some (PEv.w b) →
      b ≠ [] ∧ (t[i + 1]? = some PEv.f ∨ (i + 1 = t.length ∧ wfRun s t = some true)) := by
  intro t
  induction t with
  | nil =>
    intro s _ i b h
    simp at h
  | cons e t ih =>
    intro s hs i b hi
    obtain ⟨he, hs'⟩ := wfRun_cons_ne_none hs
    cases i with
    | succ j =>
      obtain ⟨h1, hf | ⟨hl, ht⟩⟩ := ih (wfStep s e) hs' j b hi
      · exact ⟨h1, .inl hf⟩
      · exact ⟨h1, .inr ⟨congrArg (· + 1) hl, ht⟩⟩
    | zero =>
      simp only [List.getElem?_cons_zero, Option.some.injEq] at hi
      subst hi
      obtain ⟨hb, hw⟩ := wfStep_w he
      refine ⟨hb, ?_⟩
      rw [hw] at hs'
      cases t with
      | nil => exact .inr ⟨rfl, hw⟩
      | cons e2 t2 => exact .inl (congrArg some (wfStep_true (wfRun_cons_ne_none hs').1))

theorem wfRun_flush : ∀ (t : List PEv) (s : Option Bool), wfRun s t ≠ none →
    ∀ i, t[i]? = some PEv.f →
      (i = 0 ∧ s = some true) ∨ ∃ j b, i = j + 1 ∧ t[j]? = some (PEv.w b) := by
  intro t
  induction t with
  | nil =>
    intro s _ i h
    simp at h
  | cons e t ih =>
    intro s hs i hi
    obtain ⟨he, hs'⟩ := wfRun_cons_ne_none hs
    cases i with
    | zero =>
      simp only [List.getElem?_cons_zero, Option.some.injEq] at hi
      subst hi
      exact .inl ⟨rfl, wfStep_f he⟩
    | succ j =>
      right
      rcases ih (wfStep s e) hs' j hi with ⟨rfl, hst⟩ | ⟨k, b, rfl, hb⟩
      · obtain ⟨b, rfl⟩ := wfStep_eq_true hst
        exact ⟨0, b, rfl, rfl⟩
      · exact ⟨k + 1, b, rfl, hb⟩

def RunOutput {σ : Type} (I : Iface σ) (n : Nat) (b : Bytes) : Prop :=
  ∃ (header : Node) (data : Bytes) (user : σ),
    b = (runFrom I header data { cap := some n } user).w.buf

/-- Invariant of the loop state.  `Rp` is a property of the reads (`delivered`, `dstLen`); it is a
parameter so that the steps need not carry the offsets invariant, which bounds a read: only
`procLoop_tinv` says what it is (`ReadOK`). -/
structure TInv {σ : Type} (I : Iface σ) (n : Nat) (fault : Option (Nat × Int))
    (Rp : Nat → Nat → Prop) (pending : Bool) (st : PState σ) : Prop where
  calls_eq : st.calls = st.trace.length
  calls_le : ∀ k code, fault = some (k, code) → st.calls ≤ k
  gram : Gram pending st.trace
  reads : ∀ d l, PEv.r d l ∈ st.trace → Rp d l
  writes : ∀ b, PEv.w b ∈ st.trace → RunOutput I n b

section
variable {σ : Type} {I : Iface σ} {n : Nat} {fault : Option (Nat × Int)} {Rp : Nat → Nat → Prop}
  {p : Bool} {st st' : PState σ}

theorem TInv.weaken (h : TInv I n fault Rp false st) : TInv I n fault Rp true st :=
  ⟨h.calls_eq, h.calls_le, h.gram.weaken, h.reads, h.writes⟩

theorem TInv.congr (h : TInv I n fault Rp p st) (hc : st'.calls = st.calls)
    (ht : st'.trace = st.trace) : TInv I n fault Rp p st' :=
  ⟨hc ▸ ht ▸ h.calls_eq, hc ▸ h.calls_le, ht ▸ h.gram, ht ▸ h.reads, ht ▸ h.writes⟩

theorem TInv.calls_lt (h : TInv I n fault Rp p st) (hf : faultAt fault st.calls = none)
    (k : Nat) (code : Int) (hk : fault = some (k, code)) : st.calls < k := by
  refine Nat.lt_of_le_of_ne (h.calls_le k code hk) (fun e => ?_)
  rw [e, faultAt_eq_some.mpr hk] at hf
  cases hf

theorem TInv.snoc {p' : Bool} (h : TInv I n fault Rp p st)
    (hf : faultAt fault st.calls = none) (e : PEv)
    (hc : st'.calls = st.calls + 1) (ht : st'.trace = st.trace ++ [e])
    (hg : Gram p' (st.trace ++ [e])) (hr : ∀ d l, .r d l = e → Rp d l)
    (hw : ∀ b, .w b = e → RunOutput I n b) : TInv I n fault Rp p' st' := by
  have hmem : ∀ {x}, x ∈ st'.trace → x ∈ st.trace ∨ x = e := fun hm => by
    rwa [ht, List.mem_append, List.mem_singleton] at hm
  refine ⟨?_, ?_, ht ▸ hg, fun d l hm => (hmem hm).elim (h.reads d l) (hr d l),
    fun b hm => (hmem hm).elim (h.writes b) (hw b)⟩
  · rw [hc, ht, List.length_append, h.calls_eq]
    rfl
  · intro k code hk
    rw [hc]
    exact h.calls_lt hf k code hk

theorem TInv.write {b : Bytes} (h : TInv I n fault Rp false st)
    (hf : faultAt fault st.calls = none) (hb : RunOutput I n b) (hb0 : b ≠ [])
    (hc : st'.calls = st.calls + 1) (ht : st'.trace = st.trace ++ [PEv.w b]) :
    TInv I n fault Rp true st' :=
  h.snoc hf (.w b) hc ht (.inr ⟨rfl, _, _, rfl, gram_false.mp h.gram, hb0⟩)
    (fun _ _ e => nomatch e) (fun _ e => by cases e; exact hb)

theorem TInv.resp {b : Bytes} (h : TInv I n fault Rp false st) (hb : RunOutput I n b)
    (hf : b ≠ [] → faultAt fault st.calls = none ∧ faultAt fault (st.calls + 1) = none)
    (hc : st'.calls = st.calls + (respEvents b).length)
    (ht : st'.trace = st.trace ++ respEvents b) : TInv I n fault Rp false st' := by
  by_cases hb0 : b = []
  · rw [hb0, respEvents_nil] at hc ht
    exact h.congr hc (by rw [ht, List.append_nil])
  · rw [respEvents_ne hb0] at hc ht
    obtain ⟨h1, h2⟩ := hf hb0
    have hw : TInv I n fault Rp true
        { st with calls := st.calls + 1, trace := st.trace ++ [PEv.w b] } :=
      h.write h1 hb hb0 rfl rfl
    exact hw.snoc h2 .f hc (by rw [ht, List.append_assoc]; rfl)
      (.inl (by rw [List.append_assoc]; exact .resp (gram_false.mp h.gram) hb0))
      (fun _ _ e => nomatch e) (fun _ e => nomatch e)

end

variable {σ : Type} (I : Iface σ) (n : Nat) (fault : Option (Nat × Int)) (Rp : Nat → Nat → Prop)

def StopOK (st : PState σ) (e : PEnd) : Prop :=
  ((∃ c, e = .crash c) ∧ TInv I n fault Rp false st) ∨
  (e = .transport .eos ∧ TInv I n fault Rp false st ∧
    (∀ k code, fault = some (k, code) → st.calls < k) ∧ st.stream = [] ∧ st.sizes = []) ∨
  (∃ code, e = .transport (.fault code) ∧ fault = some (st.calls, code) ∧
    TInv I n fault Rp true st)

section
variable {I n fault Rp} {st : PState σ}

theorem StopOK.crash (c : Crash) (h : TInv I n fault Rp false st) :
    StopOK I n fault Rp st (.crash c) :=
  .inl ⟨⟨c, rfl⟩, h⟩

theorem StopOK.eos (h : TInv I n fault Rp false st) (hf : faultAt fault st.calls = none)
    (h1 : st.stream = []) (h2 : st.sizes = []) : StopOK I n fault Rp st (.transport .eos) :=
  .inr (.inl ⟨rfl, h, h.calls_lt hf, h1, h2⟩)

theorem StopOK.byFault {c : Int} (hf : faultAt fault st.calls = some c)
    (h : TInv I n fault Rp true st) : StopOK I n fault Rp st (.transport (.fault c)) :=
  .inr (.inr ⟨c, rfl, faultAt_eq_some.mp hf, h⟩)

end

def ExitOK (r : PState σ × Option PEnd) : Prop :=
  match r.2 with
  | none => TInv I n fault Rp false r.1
  | some e => StopOK I n fault Rp r.1 e

theorem innerStep_tinv (readEnd : Nat) (st : PState σ) (h : TInv I n fault Rp false st) :
    match innerStep I n fault readEnd st with
    | .inl st' => TInv I n fault Rp false st'
    | .inr r => ExitOK I n fault Rp r := by
  rcases innerStep_view I n readEnd st with ⟨e, h', he⟩ | ⟨window, p, data, _, _, _, h'⟩
  · rw [h' fault]
    rcases he with ⟨rfl, _⟩ | ⟨rfl, _⟩
    · exact h
    · exact .crash _ h
  · rw [h' fault]
    obtain ⟨o, rfl, _, hc | ⟨hb, c, hf, hc⟩ | ⟨hb, hf, c, hf', hc⟩⟩ :=
      msgStep_cases I n fault st (st.readOff + p + 1) data
    · rw [hc.1]
      exact h.resp ⟨_, _, _, rfl⟩ hc.2 rfl rfl
    · rw [hc]
      exact .byFault hf (h.weaken.congr rfl rfl)
    · rw [hc]
      exact .byFault hf' (h.write hf ⟨_, _, _, rfl⟩ hb rfl rfl)

theorem procInner_tinv (readEnd fuel : Nat) (st : PState σ) (h : TInv I n fault Rp false st) :
    ExitOK I n fault Rp (procInner I n fault fuel readEnd st) :=
  procInner_invariant I n fault readEnd (fun _ s => TInv I n fault Rp false s)
    (ExitOK I n fault Rp) (fun _ => .crash _)
    (fun _ s h => innerStep_tinv I n fault Rp readEnd s h) fuel st h

def OutOK (out : POut σ) : Prop :=
  out.trace = out.final.trace ∧ out.user = out.final.user ∧
    StopOK I n fault Rp out.final out.stop

variable {I n fault Rp} in
theorem OutOK.tinv {out : POut σ} (h : OutOK I n fault Rp out) :
    TInv I n fault Rp true out.final := by
  obtain ⟨_, _, ⟨_, h⟩ | ⟨_, h, _⟩ | ⟨_, _, _, h⟩⟩ := h
  · exact h.weaken
  · exact h.weaken
  · exact h

theorem outerTail_tinv (readEnd : Nat) (r : PState σ × Option PEnd) (hx : ExitOK I n fault Rp r) :
    match outerTail I n readEnd r with
    | .inl st' => TInv I n fault Rp false st'
    | .inr out => OutOK I n fault Rp out := by
  rcases outerTail_cases I n readEnd r with ⟨e, he, ht⟩ | ⟨he, _, c, ht⟩ | ⟨he, buf', _, _, ht⟩
  · rw [ExitOK, he] at hx
    rw [ht]
    exact ⟨rfl, rfl, hx⟩
  · rw [ExitOK, he] at hx
    rw [ht]
    exact ⟨rfl, rfl, .crash c (hx.congr rfl rfl)⟩
  · rw [ExitOK, he] at hx
    rw [ht]
    exact hx.congr rfl rfl

theorem outerStep_tinv (st : PState σ) (h : TInv I n fault Rp false st)
    (hR : Rp (readCount n st) (n - st.readOff)) :
    match outerStep I n fault st with
    | .inl st' => TInv I n fault Rp false st'
    | .inr out => OutOK I n fault Rp out := by
  rcases outerStep_view I n fault st with ⟨e, hs, he⟩ | ⟨_, h1, _, hs⟩
  · rw [hs]
    refine ⟨rfl, rfl, ?_⟩
    rcases he with ⟨rfl, _⟩ | ⟨c, rfl, hc⟩ | ⟨rfl, hf, h1, h2⟩
    · exact .crash _ h
    · exact .byFault hc h.weaken
    · exact .eos h hf h1 h2
  · rw [hs]
    exact outerTail_tinv I n fault Rp _ _ (procInner_tinv I n fault Rp _ _ (afterRead n st)
      (h.snoc h1 (.r _ _) rfl rfl (.inl (.read _ _ (gram_false.mp h.gram)))
        (fun d l e => by cases e; exact hR) (fun _ e => nomatch e)))

/-- A read delivered `d` bytes into a slice of length `l`. -/
def ReadOK (n d l : Nat) : Prop := d ≤ l ∧ l ≤ n ∧ (1 ≤ n → 1 ≤ l)

/-- The offsets invariant (which needs `n ≥ 1`) is carried along for the last part of
`ReadOK`. -/
theorem procLoop_tinv (fuel : Nat) (st : PState σ) (hj : 1 ≤ n → PInv n st)
    (h : TInv I n fault (ReadOK n) false st) :
    OutOK I n fault (ReadOK n) (procLoop I n fault fuel st) := by
  have hR : ∀ s : PState σ, (1 ≤ n → PInv n s) → ReadOK n (readCount n s) (n - s.readOff) :=
    fun s hj => ⟨(readCount_le n s).1, Nat.sub_le _ _, fun hn => Nat.sub_pos_of_lt (hj hn).lt⟩
  refine procLoop_invariant I n fault (fun _ s => (1 ≤ n → PInv n s) ∧ TInv I n fault _ false s)
    (OutOK I n fault _) (fun s h => ⟨rfl, rfl, .crash _ h.2⟩) ?_ fuel st ⟨hj, h⟩
  intro k s h
  have := outerStep_tinv I n fault _ s h.2 (hR s h.1)
  generalize hs : outerStep I n fault s = r at this ⊢
  cases r with
  | inl s' => exact ⟨fun hn => outerStep_pinv I n fault (h.1 hn) hs, this⟩
  | inr out => exact this

theorem process_outOK (sc : Script) (s : σ) :
    OutOK I n sc.fault (ReadOK n) (process I n sc s) :=
  procLoop_tinv I n sc.fault _ _ (initState_inv I n sc s)
    ⟨rfl, fun _ _ _ => Nat.zero_le _, .inl .nil, (fun _ _ h => nomatch h), (fun _ h => nomatch h)⟩

end Proc
end Scpi
