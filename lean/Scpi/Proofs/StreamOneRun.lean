/-
The stream machine against ONE run over the whole input (C08, streaming half).

The machine interprets what is pending at every newline, with a fresh `n`-byte
response buffer, and keeps what `run_from` returns as unfinished.  `feed_sim` shows
that — as long as no response buffer overflows — this is one `run_from` over all the
bytes with an unbounded writer: same user state, same position, and the bytes written
are the bytes the machine has sent.
-/
import Scpi.Proofs.StreamMessages
import Scpi.Proofs.BoundedWriter

namespace Scpi

variable {σ : Type} (I : Iface σ) (n : Nat)

def outBytes : List PEv → Bytes
  | [] => []
  | .w b :: t => b ++ outBytes t
  | _ :: t => outBytes t

theorem outBytes_append (a b : List PEv) : outBytes (a ++ b) = outBytes a ++ outBytes b := by
  induction a with
  | nil => rfl
  | cons e t ih =>
    cases e with
    | w x => exact (congrArg (x ++ ·) ih).trans (List.append_assoc _ _ _).symm
    | _ => exact ih

theorem outBytes_response (b : Bytes) :
    outBytes (if b = [] then [] else [PEv.w b, PEv.f]) = b := by
  split
  · next h =>
    rw [h]
    rfl
  · exact List.append_nil b

/-- `y` is what is still to come.  The bound `hb` on the reference run (unbounded writer `W`) is
what keeps every per-newline response buffer of the machine from overflowing. -/
theorem feed_sim (l : Bytes) (st : SpecState σ) (y : Bytes) (W : Writer) (hW : W.cap = none)
    (hb : (runFrom I st.header (st.pending ++ (l ++ y)) W st.user).w.buf.length
      ≤ W.buf.length + n) :
    ∃ (d : Bytes) (W' : Writer), W'.cap = none ∧ W'.buf = W.buf ++ d ∧
      outBytes (l.foldl (streamFeed I n) st).out = outBytes st.out ++ d ∧
      runFrom I st.header (st.pending ++ (l ++ y)) W st.user =
        runFrom I (l.foldl (streamFeed I n) st).header
          ((l.foldl (streamFeed I n) st).pending ++ y) W'
          (l.foldl (streamFeed I n) st).user := by
  induction l generalizing st W with
  | nil => exact ⟨[], W, hW, (List.append_nil _).symm, (List.append_nil _).symm, rfl⟩
  | cons b l ih =>
    rw [List.foldl_cons]
    rw [List.cons_append, List.append_cons] at hb ⊢
    by_cases hb10 : b = 10
    · subst hb10
      -- the reference run cut at this newline (`runFrom_split`): its first part is the run
      -- the machine makes, on the unbounded writer instead of a fresh `n`-byte buffer
      rw [runFrom_split I st.header (st.pending ++ [10]) W st.user List.getLast?_concat
        (l ++ y)] at hb ⊢
      obtain ⟨w₁', e, _, c1, b1⟩ := runFrom_sim I st.header (st.pending ++ [10]) st.user
        (w₁ := { cap := some n }) (pre := W.buf) ⟨rfl, hW, (List.append_nil _).symm⟩
        (Nat.le_trans (extends_runFrom I _ _ _ _).buf_le hb)
      simp only [streamFeed_nl, streamNewline, e]
      obtain ⟨d, W', c', b', o', e'⟩ :=
        ih ⟨_, _, _, st.out ++ if w₁'.buf = [] then [] else [PEv.w w₁'.buf, PEv.f]⟩ _ c1
          (Nat.le_trans hb (by
            rw [b1, List.length_append]
            exact Nat.add_le_add_right (Nat.le_add_right _ _) _))
      refine ⟨w₁'.buf ++ d, W', c', by rw [b', b1, List.append_assoc], ?_, e'⟩
      rw [o', outBytes_append, outBytes_response, List.append_assoc]
    · rw [streamFeed_ne I n st hb10]
      exact ih { st with pending := st.pending ++ [b] } W hW hb

theorem stream_eq_run_from (m : Bytes) (st : SpecState σ)
    (W : Writer) (hW : W.cap = none)
    (hm : m.getLast? = some 10) (hfit : m.length ≤ n) (hc : (run I m W st.user).rest = [])
    (hresp : (run I m W st.user).w.buf.length ≤ W.buf.length + n)
    (hp : st.pending = []) (hh : st.header = I.root) :
    (m.foldl (streamSpec I n) st).pending = [] ∧
    (m.foldl (streamSpec I n) st).header = I.root ∧
    (m.foldl (streamSpec I n) st).user = (run I m W st.user).s ∧
    ∃ d, (run I m W st.user).w.buf = W.buf ++ d ∧
      outBytes (m.foldl (streamSpec I n) st).out = outBytes st.out ++ d := by
  obtain ⟨e, hcl⟩ := stream_closed I n m st W st.user hm hfit hc hp hh
  rw [e]
  have hb : (runFrom I st.header (st.pending ++ (m ++ [])) W st.user).w.buf.length
      ≤ W.buf.length + n := by
    rw [hp, hh, List.nil_append, List.append_nil]
    exact hresp
  obtain ⟨d, W', c', b', o', e'⟩ := feed_sim I n m st [] W hW hb
  rw [hp, hh, List.nil_append, List.append_nil, hcl.1, hcl.2, List.nil_append, runFrom_nil] at e'
  unfold run
  rw [e']
  exact ⟨hcl.1, hcl.2, rfl, d, b', o'⟩

end Scpi
