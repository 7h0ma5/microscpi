/-
What one pass of each loop of `process` does, said once, in four statements: `innerStep_view`,
`msgStep_cases`, `outerStep_view`, `outerTail_cases`.  `run_from` never crashes and what it leaves
unparsed is a suffix of its input (`runFrom_good`), so the two crash exits behind it are dead.

The four are disjunctions of equations and not eliminators with a motive, because the fault schedule
has to stay quantified inside an alternative: `innerStep_view` splits on the state alone, and the
comparison of a faulty with the fault-free run (Scpi/Proofs/ProcFault.lean) instantiates the
alternative it is in with both schedules.
-/
import Scpi.Proofs.ProcStep
import Scpi.Proofs.RunSteps

namespace Scpi

theorem faultAt_none (k : Nat) : faultAt none k = none := rfl

namespace Proc

variable {σ : Type} (I : Iface σ) (n : Nat) (fault : Option (Nat × Int))

theorem slice_eq_some {l : Bytes} {a b : Nat} (h1 : a ≤ b) (h2 : b ≤ l.length) :
    slice l a b = some ((l.take b).drop a) :=
  if_pos ⟨h1, h2⟩

theorem slice_some {l w : Bytes} {a b : Nat} (h : slice l a b = some w) :
    a ≤ b ∧ b ≤ l.length ∧ w = (l.take b).drop a ∧ w.length = b - a := by
  unfold slice at h
  split at h
  · next hc =>
    cases h
    refine ⟨hc.1, hc.2, rfl, ?_⟩
    rw [List.length_drop, List.length_take, Nat.min_eq_left hc.2]
  · cases h

theorem slice_none {l : Bytes} {a b : Nat} (h : slice l a b = none) :
    ¬(a ≤ b ∧ b ≤ l.length) := by
  intro hc
  rw [slice, if_pos hc] at h
  cases h

theorem newlinePos_spec (w : Bytes) :
    match newlinePos w with
    | none => 10 ∉ w
    | some p => ∃ a c, w = a ++ 10 :: c ∧ a.length = p ∧ 10 ∉ a := by
  induction w with
  | nil => exact List.not_mem_nil
  | cons x rest ih =>
    unfold newlinePos
    by_cases hx : x = 10
    · rw [if_pos (beq_iff_eq.mpr hx), hx]
      exact ⟨[], rest, rfl, rfl, List.not_mem_nil⟩
    · rw [if_neg (fun h => hx (beq_iff_eq.mp h))]
      have hne : ∀ {l : Bytes}, 10 ∉ l → 10 ∉ x :: l :=
        List.not_mem_cons_of_ne_of_not_mem (Ne.symm hx)
      generalize newlinePos rest = r at ih ⊢
      cases r with
      | none => exact hne ih
      | some q =>
        obtain ⟨a, c, h1, h2, h3⟩ := ih
        exact ⟨x :: a, c, congrArg (x :: ·) h1, congrArg (· + 1) h2, hne h3⟩

theorem newlinePos_some (w : Bytes) (p : Nat) (h : newlinePos w = some p) :
    ∃ a c, w = a ++ 10 :: c ∧ a.length = p ∧ 10 ∉ a := by
  simpa only [h] using newlinePos_spec w

theorem newlinePos_none (w : Bytes) (h : newlinePos w = none) : 10 ∉ w := by
  simpa only [h] using newlinePos_spec w

theorem newlinePos_lt {w : Bytes} {p : Nat} (h : newlinePos w = some p) : p < w.length := by
  obtain ⟨a, c, rfl, rfl, _⟩ := newlinePos_some w p h
  rw [List.length_append, List.length_cons]
  omega

theorem msgEnd_le {buf w : Bytes} {ro re p : Nat} (hw : slice buf ro re = some w)
    (hp : newlinePos w = some p) : ro + p + 1 ≤ re :=
  Nat.add_lt_of_lt_sub' ((slice_some hw).2.2.2 ▸ newlinePos_lt hp)

theorem newlinePos_first : ∀ (w : Bytes) (p : Nat), newlinePos w = some p →
    ∀ i, i < p → w[i]? ≠ some 10 := by
  intro w p h i hi hc
  obtain ⟨a, c, rfl, rfl, ha⟩ := newlinePos_some w p h
  rw [List.getElem?_append_left hi] at hc
  exact ha (List.mem_of_getElem? hc)

theorem faultAt_eq_some {fault : Option (Nat × Int)} {k : Nat} {c : Int} :
    faultAt fault k = some c ↔ fault = some (k, c) := by
  rcases fault with _ | ⟨i, c'⟩
  · simp [faultAt]
  · by_cases h : i = k <;> simp [faultAt, h]

def respEvents (b : Bytes) : List PEv := if b = [] then [] else [PEv.w b, PEv.f]

theorem respEvents_nil : respEvents [] = [] := rfl

theorem respEvents_ne {b : Bytes} (hb : b ≠ []) : respEvents b = [PEv.w b, PEv.f] := if_neg hb

theorem respWrite_cases (st : PState σ) (b : Bytes) :
    (respWrite fault st b =
        ({ st with calls := st.calls + (respEvents b).length, trace := st.trace ++ respEvents b },
          none) ∧
      (b ≠ [] → faultAt fault st.calls = none ∧ faultAt fault (st.calls + 1) = none)) ∨
    (b ≠ [] ∧ ∃ c, faultAt fault st.calls = some c ∧
      respWrite fault st b = (st, some (.transport (.fault c)))) ∨
    (b ≠ [] ∧ faultAt fault st.calls = none ∧ ∃ c, faultAt fault (st.calls + 1) = some c ∧
      respWrite fault st b =
        ({ st with calls := st.calls + 1, trace := st.trace ++ [PEv.w b] },
          some (.transport (.fault c)))) := by
  cases b with
  | nil =>
    left
    exact ⟨by rw [respEvents_nil, List.append_nil]; rfl, fun h => absurd rfl h⟩
  | cons x xs =>
    have hb : x :: xs ≠ [] := List.cons_ne_nil x xs
    rw [respWrite, List.isEmpty_cons, if_neg Bool.false_ne_true]
    cases h1 : faultAt fault st.calls with
    | some c => exact .inr (.inl ⟨hb, c, rfl, rfl⟩)
    | none =>
      dsimp only
      cases h2 : faultAt fault (st.calls + 1) with
      | some c => exact .inr (.inr ⟨hb, rfl, c, rfl, rfl⟩)
      | none =>
        refine .inl ⟨?_, fun _ => ⟨rfl, rfl⟩⟩
        rw [respEvents_ne hb, List.append_assoc]
        rfl

/-- The rest of an inner iteration once the message `data = cmd_buf[proc_offset..q]` has been cut
out (`q` is one past its terminator). -/
def msgStep (st : PState σ) (q : Nat) (data : Bytes) : PState σ ⊕ (PState σ × Option PEnd) :=
  let o := runFrom I st.header data { cap := some n } st.user
  match o.crash with
  | some c => .inr ({ st with user := o.s }, some (.crash c))
  | none =>
    match respWrite fault { st with header := o.header, user := o.s } o.w.buf with
    | (st', some e) => .inr (st', some e)
    | (st', none) =>
      if !o.rest.isEmpty then
        if o.rest.length ≤ st'.procOff + data.length then
          .inl { st' with procOff := st'.procOff + data.length - o.rest.length, readOff := q }
        else .inr (st', some (.crash .subOverflow))
      else .inl { st' with procOff := q, readOff := q }

theorem innerStep_view (readEnd : Nat) (st : PState σ) :
    (∃ e, (∀ fault, innerStep I n fault readEnd st = .inr (st, e)) ∧
      ((e = none ∧ ∃ window, slice st.buf st.readOff readEnd = some window ∧
          newlinePos window = none) ∨
       (e = some (.crash .sliceOutOfRange) ∧
          ¬(st.procOff ≤ st.readOff ∧ st.readOff ≤ readEnd ∧ readEnd ≤ st.buf.length)))) ∨
    (∃ window p data, slice st.buf st.readOff readEnd = some window ∧
      newlinePos window = some p ∧ slice st.buf st.procOff (st.readOff + p + 1) = some data ∧
      ∀ fault,
        innerStep I n fault readEnd st = msgStep I n fault st (st.readOff + p + 1) data) := by
  unfold innerStep
  cases hw : slice st.buf st.readOff readEnd with
  | none =>
    exact .inl ⟨_, fun _ => rfl, .inr ⟨rfl, fun h => slice_none hw ⟨h.2.1, h.2.2⟩⟩⟩
  | some window =>
    dsimp only
    cases hp : newlinePos window with
    | none => exact .inl ⟨_, fun _ => rfl, .inl ⟨rfl, window, rfl, hp⟩⟩
    | some p =>
      dsimp only
      cases hd : slice st.buf st.procOff (st.readOff + p + 1) with
      | none =>
        exact .inl ⟨_, fun _ => rfl, .inr ⟨rfl, fun h => slice_none hd
          ⟨Nat.le_trans h.1 (Nat.le_trans (Nat.le_add_right _ p) (Nat.le_succ _)),
            Nat.le_trans (msgEnd_le hw hp) h.2.2⟩⟩⟩
      | some data => exact .inr ⟨window, p, data, rfl, hp, hd, fun _ => rfl⟩

/-- The outcome `o` comes with its equation, so that a caller substitutes it (`rfl`) or keeps it
opaque. -/
theorem msgStep_cases (st : PState σ) (q : Nat) (data : Bytes) :
    ∃ o, o = runFrom I st.header data { cap := some n } st.user ∧ o.rest <:+ data ∧
    ((msgStep I n fault st q data = .inl { st with
          header := o.header, user := o.s, calls := st.calls + (respEvents o.w.buf).length,
          trace := st.trace ++ respEvents o.w.buf,
          procOff := if o.rest = [] then q else st.procOff + data.length - o.rest.length,
          readOff := q } ∧
        (o.w.buf ≠ [] →
          faultAt fault st.calls = none ∧ faultAt fault (st.calls + 1) = none)) ∨
     (o.w.buf ≠ [] ∧ ∃ c, faultAt fault st.calls = some c ∧
        msgStep I n fault st q data =
          .inr ({ st with header := o.header, user := o.s }, some (.transport (.fault c)))) ∨
     (o.w.buf ≠ [] ∧ faultAt fault st.calls = none ∧
        ∃ c, faultAt fault (st.calls + 1) = some c ∧
        msgStep I n fault st q data =
          .inr ({ st with header := o.header, user := o.s, calls := st.calls + 1,
                          trace := st.trace ++ [PEv.w o.w.buf] },
                some (.transport (.fault c))))) := by
  obtain ⟨hnc, hsuf⟩ := runFrom_good I st.header data { cap := some n } st.user
  refine ⟨_, rfl, hsuf, ?_⟩
  have hle := hsuf.length_le
  simp only [msgStep, hnc]
  generalize runFrom I st.header data { cap := some n } st.user = o at hle ⊢
  rcases respWrite_cases fault { st with header := o.header, user := o.s } o.w.buf with
    ⟨h, hf⟩ | ⟨hb, c, hc, h⟩ | ⟨hb, h1, c, hc, h⟩
  · left
    refine ⟨?_, hf⟩
    rw [h]
    cases hr : o.rest with
    | nil => rfl
    | cons y ys =>
      rw [hr] at hle
      simp only [List.isEmpty_cons, Bool.not_false, if_true, reduceCtorEq, if_false]
      rw [if_pos (Nat.le_trans hle (Nat.le_add_left _ _))]
  · exact .inr (.inl ⟨hb, c, hc, by rw [h]⟩)
  · exact .inr (.inr ⟨hb, h1, c, hc, by rw [h]⟩)

theorem innerStep_exit_none
    (readEnd : Nat) (st st' : PState σ) (h : innerStep I n fault readEnd st = .inr (st', none)) :
    st' = st ∧
      ∃ window, slice st.buf st.readOff readEnd = some window ∧ newlinePos window = none := by
  rcases innerStep_view I n readEnd st with ⟨e, h', he⟩ | ⟨window, p, data, _, _, _, h'⟩
  · rw [h' fault] at h
    cases h
    rcases he with ⟨_, hw⟩ | ⟨hc, _⟩
    · exact ⟨rfl, hw⟩
    · cases hc
  · rw [h' fault] at h
    obtain ⟨o, _, _, hc | ⟨_, c, _, hc⟩ | ⟨_, _, c, _, hc⟩⟩ :=
      msgStep_cases I n fault st (st.readOff + p + 1) data
    · rw [hc.1] at h
      cases h
    · rw [hc] at h
      cases h
    · rw [hc] at h
      cases h

theorem readCount_le (st : PState σ) :
    readCount n st ≤ n - st.readOff ∧ readCount n st ≤ st.stream.length ∧
    (st.sizes = [] → readCount n st = min (n - st.readOff) st.stream.length) := by
  unfold readCount
  refine ⟨Nat.le_trans (Nat.min_le_right _ _) (Nat.min_le_left _ _),
    Nat.le_trans (Nat.min_le_right _ _) (Nat.min_le_right _ _), fun h => ?_⟩
  rw [h]
  exact Nat.min_eq_right (Nat.min_le_left _ _)

theorem shiftBuf_cases (readEnd : Nat) (st : PState σ) :
    (∃ c, shiftBuf readEnd st = .error (.crash c) ∧
      ¬(st.procOff ≤ readEnd ∧ readEnd ≤ st.buf.length ∧ st.procOff ≤ st.readOff)) ∨
    (∃ buf', shiftBuf readEnd st =
        .ok { st with buf := buf', readOff := st.readOff - st.procOff, procOff := 0 } ∧
      buf'.length = st.buf.length ∧
      buf'.take (readEnd - st.procOff) = (st.buf.take readEnd).drop st.procOff) := by
  unfold shiftBuf
  by_cases hp : st.procOff > 0
  · rw [if_pos hp]
    cases hs : slice st.buf st.procOff readEnd with
    | none => exact .inl ⟨.sliceOutOfRange, rfl, fun h => slice_none hs ⟨h.1, h.2.1⟩⟩
    | some pending =>
      obtain ⟨h1, h2, hpe, hl⟩ := slice_some hs
      by_cases hr : st.procOff ≤ st.readOff
      · right
        refine ⟨pending ++ st.buf.drop pending.length, by simp only [if_pos hr], ?_, ?_⟩
        · rw [List.length_append, List.length_drop, hl]
          exact Nat.add_sub_cancel' (Nat.le_trans (Nat.sub_le _ _) h2)
        · rw [← hl, List.take_left' rfl, hpe]
      · exact .inl ⟨.subOverflow, by simp only [if_neg hr], fun h => hr h.2.2⟩
  · rw [if_neg hp]
    have h0 : st.procOff = 0 := by omega
    refine .inr ⟨st.buf, ?_, rfl, by rw [h0]; rfl⟩
    obtain ⟨buf, procOff, readOff, header, user, stream, sizes, calls, trace⟩ := st
    cases h0
    rfl

theorem resetFull_eq (st : PState σ) :
    resetFull I n st = { st with readOff := if n ≤ st.readOff then 0 else st.readOff,
                                 header := if n ≤ st.readOff then I.root else st.header } := by
  unfold resetFull
  by_cases h : n ≤ st.readOff
  · rw [if_pos h, if_pos h, if_pos h]
  · rw [if_neg h, if_neg h, if_neg h]

/-- The rest of an outer iteration once the inner loop has returned `r`; it does not depend on the
fault schedule. -/
def outerTail (readEnd : Nat) (r : PState σ × Option PEnd) :
    PState σ ⊕ POut σ :=
  match r with
  | (st2, some e) => .inr (stopOut e st2)
  | (st2, none) =>
    match shiftBuf readEnd { st2 with readOff := readEnd } with
    | .error e => .inr (stopOut e { st2 with readOff := readEnd })
    | .ok st3 => .inl (resetFull I n st3)

theorem outerStep_eq (st : PState σ) :
    outerStep I n fault st =
      if st.readOff > n then .inr (stopOut (.crash .sliceOutOfRange) st) else
      match faultAt fault st.calls with
      | some c => .inr (stopOut (.transport (.fault c)) st)
      | none =>
        if st.stream.isEmpty ∧ st.sizes.isEmpty then .inr (stopOut (.transport .eos) st) else
        outerTail I n (st.readOff + readCount n st)
          (procInner I n fault (readCount n st + 1) (st.readOff + readCount n st)
            (afterRead n st)) := by
  unfold outerStep outerTail
  rfl

theorem outerStep_view (st : PState σ) :
    (∃ e, outerStep I n fault st = .inr (stopOut e st) ∧
      ((e = .crash .sliceOutOfRange ∧ n < st.readOff) ∨
       (∃ c, e = .transport (.fault c) ∧ faultAt fault st.calls = some c) ∨
       (e = .transport .eos ∧ faultAt fault st.calls = none ∧
          st.stream = [] ∧ st.sizes = []))) ∨
    (st.readOff ≤ n ∧ faultAt fault st.calls = none ∧
      ¬(st.stream.isEmpty ∧ st.sizes.isEmpty) ∧
      outerStep I n fault st = outerTail I n (st.readOff + readCount n st)
        (procInner I n fault (readCount n st + 1) (st.readOff + readCount n st)
          (afterRead n st))) := by
  rw [outerStep_eq]
  by_cases h0 : st.readOff > n
  · rw [if_pos h0]
    exact .inl ⟨_, rfl, .inl ⟨rfl, h0⟩⟩
  · rw [if_neg h0]
    cases h1 : faultAt fault st.calls with
    | some c => exact .inl ⟨_, rfl, .inr (.inl ⟨c, rfl, rfl⟩)⟩
    | none =>
      by_cases h2 : st.stream.isEmpty ∧ st.sizes.isEmpty
      · exact .inl ⟨_, by rw [if_pos h2],
          .inr (.inr ⟨rfl, rfl, List.isEmpty_iff.mp h2.1, List.isEmpty_iff.mp h2.2⟩)⟩
      · exact .inr ⟨Nat.le_of_not_lt h0, rfl, h2, by rw [if_neg h2]⟩

theorem outerTail_cases (readEnd : Nat) (r : PState σ × Option PEnd) :
    (∃ e, r.2 = some e ∧ outerTail I n readEnd r = .inr (stopOut e r.1)) ∨
    (r.2 = none ∧ ¬(r.1.procOff ≤ readEnd ∧ readEnd ≤ r.1.buf.length) ∧
      ∃ c, outerTail I n readEnd r =
        .inr (stopOut (.crash c) { r.1 with readOff := readEnd })) ∨
    (r.2 = none ∧ ∃ buf', buf'.length = r.1.buf.length ∧
      buf'.take (readEnd - r.1.procOff) = (r.1.buf.take readEnd).drop r.1.procOff ∧
      outerTail I n readEnd r = .inl { r.1 with
        buf := buf', procOff := 0,
        readOff := if n ≤ readEnd - r.1.procOff then 0 else readEnd - r.1.procOff,
        header := if n ≤ readEnd - r.1.procOff then I.root else r.1.header }) := by
  obtain ⟨st2, e⟩ := r
  cases e with
  | some e => exact .inl ⟨e, rfl, rfl⟩
  | none =>
    right
    rcases shiftBuf_cases readEnd { st2 with readOff := readEnd } with
      ⟨c, hs, hbad⟩ | ⟨buf', hs, hl, ht⟩
    · exact .inl ⟨rfl, fun h => hbad ⟨h.1, h.2, h.1⟩, c, by simp only [outerTail, hs]⟩
    · exact .inr ⟨rfl, buf', hl, ht, by simp only [outerTail, hs, resetFull_eq]⟩

end Proc
end Scpi
