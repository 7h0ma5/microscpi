/-
C03, floats: `roundRat` rounds `N/W` to an integer `q`, where `N = n · funitDen f` is `n/d` in grid
units times `d` and `W = 2^k · d` is the spacing times `d`, and returns the pattern `k·2^mbits + q`
capped at the infinity pattern (`roundRat_cell`).  That pattern is a nearest grid point, ties to
even, stated by midpoints (`roundRat_mid`); `absDiff_le_of_mid` turns midpoints into distances.
-/
import Scpi.Proofs.ConvGrid

namespace Scpi
namespace C03

/-- The stages of `roundRat` under names of their own (`roundRat_eq`): `e' = max e emin`, `n/d`
divided by the quantum `2^sh` as a fraction, the quotient rounded to nearest with ties to even,
re-normalisation after a carry out of the significand and encoding. -/
def clampE (f : FloatFmt) (e : Int) : Int :=
  if e < 1 - (f.bias : Int) then 1 - (f.bias : Int) else e

def scaledPair (n d : Nat) (sh : Int) : Nat × Nat :=
  if sh ≥ 0 then (n, d * 2 ^ sh.toNat) else (n * 2 ^ (-sh).toNat, d)

def roundQ (num den : Nat) : Nat :=
  if 2 * (num % den) > den ∨ (2 * (num % den) = den ∧ (num / den) % 2 = 1) then num / den + 1
  else num / den

def finish (f : FloatFmt) (q : Nat) (e' : Int) : Nat :=
  match (if q = 2 ^ (f.mbits + 1) then (2 ^ f.mbits, e' + 1) else (q, e') : Nat × Int) with
  | (q, e') =>
    if q < 2 ^ f.mbits then q
    else
      if e' + (f.bias : Int) ≥ (f.expMax : Int) then f.infBits
      else (e' + (f.bias : Int)).toNat * 2 ^ f.mbits + (q - 2 ^ f.mbits)

theorem roundRat_eq (f : FloatFmt) (n d : Nat) (hn : n ≠ 0) :
    roundRat f n d =
      match scaledPair n d (clampE f (chooseE n d) - f.mbits) with
      | (num, den) => finish f (roundQ num den) (clampE f (chooseE n d)) := by
  -- unfolded by name: left to unify the two sides, the elaborator evaluates the `if`s under the
  -- `match`es as far as it can, which is slow
  delta roundRat finish roundQ scaledPair clampE chooseE geB
  rw [if_neg hn]

theorem scaledPair_sub (n d a b : Nat) :
    scaledPair n d ((a : Int) - b) = (n * 2 ^ (b - a), d * 2 ^ (a - b)) := by
  unfold scaledPair
  rw [Int.toNat_sub, Int.neg_sub, Int.toNat_sub]
  split
  · rw [Nat.sub_eq_zero_of_le (by omega : b ≤ a), Nat.pow_zero, Nat.mul_one]
  · rw [Nat.sub_eq_zero_of_le (by omega : a ≤ b), Nat.pow_zero, Nat.mul_one]

theorem roundQ_mul_right (num den t : Nat) (ht : 0 < t) :
    roundQ (num * t) (den * t) = roundQ num den := by
  unfold roundQ
  rw [Nat.mul_div_mul_right _ _ ht, Nat.mul_mod_mul_right, ← Nat.mul_assoc]
  simp only [gt_iff_lt, Nat.mul_lt_mul_right ht, Nat.mul_left_inj (Nat.ne_of_gt ht)]

theorem roundQ_scaled (n d B k : Nat) :
    roundQ (n * 2 ^ (B - k)) (d * 2 ^ (k - B)) = roundQ (n * 2 ^ B) (d * 2 ^ k) := by
  rw [← roundQ_mul_right (n * 2 ^ (B - k)) _ _ (Nat.two_pow_pos k),
    pow_shift_eq (by omega : B - k + k = B + (k - B)), Nat.mul_right_comm d,
    roundQ_mul_right _ _ _ (Nat.two_pow_pos _)]

theorem roundQ_bounds (N W : Nat) : N / W ≤ roundQ N W ∧ roundQ N W ≤ N / W + 1 := by
  unfold roundQ
  split
  · exact ⟨Nat.le_succ _, Nat.le_refl _⟩
  · exact ⟨Nat.le_refl _, Nat.le_succ _⟩

/-- `y = roundQ N W · W` against any `x` outside the open cell `(⌊N/W⌋·W, (⌊N/W⌋+1)·W)`: `N` lies
on `y`'s side of the midpoint of `x` and `y`, and on the midpoint only if the quotient is even. -/
theorem roundQ_mid (N W x : Nat) (hW : 0 < W) (hx : x ≤ N / W * W ∨ (N / W + 1) * W ≤ x) :
    (x < roundQ N W * W → x + roundQ N W * W ≤ 2 * N) ∧
    (roundQ N W * W < x → 2 * N ≤ x + roundQ N W * W) ∧
    (x ≠ roundQ N W * W → x + roundQ N W * W = 2 * N → roundQ N W % 2 = 0) := by
  have hdm := Nat.div_add_mod' N W
  have hr := Nat.mod_lt N hW
  unfold roundQ
  rw [Nat.add_mul, Nat.one_mul] at hx
  generalize N / W = q0 at *
  generalize N % W = r at *
  subst hdm
  -- `N = q0·W + r` in the cell `[q0·W, q0·W + W]`; the rule picks the end on whose side of the
  -- midpoint of the cell `N` lies, and at the midpoint the even one
  by_cases h : 2 * r > W ∨ (2 * r = W ∧ q0 % 2 = 1)
  · rw [if_pos h, Nat.add_mul, Nat.one_mul]
    omega
  · rw [if_neg h]
    omega

theorem bracket (num den W N : Nat) (hden : 0 < den) (hW : 0 < W) (h : num * W = den * N) :
    (num / den) * W ≤ N ∧ N < (num / den + 1) * W ∧
    (N - (num / den) * W) * den = (num % den) * W ∧
    ((num / den + 1) * W - N) * den = (den - num % den) * W := by
  have hdm := Nat.div_add_mod num den
  have hr := Nat.mod_lt num hden
  generalize num / den = q0 at *
  generalize num % den = r at *
  subst hdm
  have h1 : den * (q0 * W) + r * W = den * N := by
    rw [← h, Nat.add_mul, Nat.mul_assoc]
  have hle : q0 * W ≤ N := by
    apply Nat.le_of_mul_le_mul_left _ hden
    omega
  have hrW : r * W < den * W := Nat.mul_lt_mul_of_pos_right hr hW
  have hlt : N < (q0 + 1) * W := by
    apply Nat.lt_of_mul_lt_mul_left (a := den)
    rw [Nat.add_mul, Nat.one_mul, Nat.mul_add]
    omega
  refine ⟨hle, hlt, ?_, ?_⟩
  · rw [Nat.sub_mul, Nat.mul_comm N den, Nat.mul_comm (q0 * W) den]
    omega
  · rw [Nat.sub_mul, Nat.sub_mul, Nat.mul_comm N den, Nat.mul_comm ((q0 + 1) * W) den,
      Nat.add_mul, Nat.one_mul, Nat.mul_add]
    omega

theorem clampE_eq (f : FloatFmt) (e : Int) :
    ∃ k : Nat, clampE f e = 1 - (f.bias : Int) + k ∧ e ≤ clampE f e ∧ (0 < k → clampE f e = e) := by
  unfold clampE
  split
  · exact ⟨0, by omega, by omega, by omega⟩
  · exact ⟨(e - (1 - (f.bias : Int))).toNat, by omega, by omega, fun _ => rfl⟩

theorem geI_cell (f : FloatFmt) (hb : 1 ≤ f.bias + f.mbits) (n d k i : Nat) {e : Int}
    (he : e = 1 - (f.bias : Int) + k + i) :
    GeI n d e ↔ 2 ^ (f.mbits + i) * (2 ^ k * d) ≤ n * funitDen f := by
  rw [geI_iff (p := f.mbits + i + k) (m := f.bias + f.mbits - 1) (by omega)]
  unfold funitDen
  rw [← Nat.mul_assoc, ← Nat.pow_add, Nat.mul_comm d]

theorem roundRat_eq_cell (f : FloatFmt) (hb : 1 ≤ f.bias + f.mbits) (n d k : Nat) (hn : n ≠ 0)
    (hk : clampE f (chooseE n d) = 1 - (f.bias : Int) + k) :
    roundRat f n d = finish f (roundQ (n * funitDen f) (2 ^ k * d)) (1 - (f.bias : Int) + k) := by
  have hsh : 1 - (f.bias : Int) + k - f.mbits = (k : Int) - (f.bias + f.mbits - 1 : Nat) := by omega
  rw [roundRat_eq f n d hn, hk, hsh, scaledPair_sub, Nat.mul_comm _ d]
  exact congrArg (finish f · _) (roundQ_scaled n d _ k)

theorem finish_eq (f : FloatFmt) (he : 1 ≤ f.expMax) (q k : Nat) (hq : q ≤ 2 * 2 ^ f.mbits)
    (hk : k = 0 ∨ 2 ^ f.mbits ≤ q) :
    finish f q (1 - (f.bias : Int) + k) = min (k * 2 ^ f.mbits + q) f.infBits := by
  have hM := Nat.two_pow_pos f.mbits
  unfold finish FloatFmt.infBits
  rw [Nat.pow_succ, Nat.mul_comm _ 2]
  -- `E = k + j` for `q = j·M + F`; overflow is `E ≥ expMax`
  have hcap : ∀ E F : Nat, F < 2 ^ f.mbits →
      (if (E : Int) ≥ (f.expMax : Int) then f.expMax * 2 ^ f.mbits else E * 2 ^ f.mbits + F) =
        min (E * 2 ^ f.mbits + F) (f.expMax * 2 ^ f.mbits) := by
    intro E F hF
    by_cases h : f.expMax ≤ E
    · rw [if_pos (Int.ofNat_le.mpr h),
        Nat.min_eq_right (Nat.le_trans (Nat.mul_le_mul_right _ h) (Nat.le_add_right _ F))]
    · have := Nat.mul_le_mul_right (2 ^ f.mbits) (Nat.lt_of_not_le h)
      rw [Nat.succ_mul] at this
      rw [if_neg (mt Int.ofNat_le.mp h),
        Nat.min_eq_left (Nat.le_trans (Nat.add_le_add_left (Nat.le_of_lt hF) _) this)]
  by_cases hq2 : q = 2 * 2 ^ f.mbits
  · rw [if_pos hq2]
    -- (`simp only []` reduces the `match` on the pair just chosen; `rw` does not see through it)
    simp only []
    have ht : 1 - (f.bias : Int) + k + 1 + (f.bias : Int) = ((k + 2 : Nat) : Int) := by omega
    rw [if_neg (Nat.lt_irrefl _), Nat.sub_self, ht, Int.toNat_natCast, hcap (k + 2) 0 hM, hq2,
      Nat.add_mul, Nat.add_zero]
  · rw [if_neg hq2]
    simp only []
    by_cases h : q < 2 ^ f.mbits
    · obtain rfl : k = 0 := hk.resolve_right (Nat.not_le_of_lt h)
      rw [if_pos h, Nat.zero_mul, Nat.zero_add,
        Nat.min_eq_left (Nat.le_trans (Nat.le_of_lt h) (Nat.le_mul_of_pos_left _ he))]
    · have ht : 1 - (f.bias : Int) + k + (f.bias : Int) = ((k + 1 : Nat) : Int) := by omega
      have h' := Nat.le_of_not_lt h
      rw [if_neg h, ht, Int.toNat_natCast, hcap (k + 1) (q - 2 ^ f.mbits) (by omega), Nat.add_mul,
        Nat.one_mul, Nat.add_assoc, Nat.add_sub_cancel' h']

/-- When the pattern `k·M + q` of the rounded quotient lies beyond the infinity pattern, the
un-rounded `q₀ · 2^k` is already at or above the grid value of infinity. -/
theorem fscaled_inf_le (f : FloatFmt) (he : 2 ≤ f.ebits) (q q0 k : Nat) (hq : q ≤ q0 + 1)
    (hq0 : q0 < 2 * 2 ^ f.mbits) (hk : k = 0 ∨ 2 ^ f.mbits ≤ q0)
    (h : f.infBits < k * 2 ^ f.mbits + q) : fscaled f f.infBits ≤ q0 * 2 ^ k := by
  have h3 := expMax_ge_three f he
  rw [fscaled_inf f (by omega)]
  unfold FloatFmt.infBits at h
  have h' : f.expMax * 2 ^ f.mbits < (k + 2) * 2 ^ f.mbits := by
    rw [Nat.add_mul]
    omega
  have hk1 := Nat.lt_of_mul_lt_mul_right h'
  exact Nat.mul_le_mul (by omega) (Nat.pow_le_pow_right (by decide) (by omega))

/-- What `roundRat` computes: `2^k` is the spacing of the binade of `n/d` (`k = 0` below the normal
range), and the quotient it rounds lies in `[2^mbits, 2·2^mbits)` unless `k = 0`. -/
theorem roundRat_cell (f : FloatFmt) (he : 2 ≤ f.ebits) (n d : Nat) (hn : n ≠ 0) (hd : 0 < d) :
    ∃ k, (k = 0 ∨ 2 ^ f.mbits ≤ n * funitDen f / (2 ^ k * d)) ∧
      n * funitDen f / (2 ^ k * d) < 2 * 2 ^ f.mbits ∧
      roundRat f n d = min (k * 2 ^ f.mbits + roundQ (n * funitDen f) (2 ^ k * d)) f.infBits := by
  have hb : 1 ≤ f.bias + f.mbits := Nat.le_add_right_of_le (expMax_eq f he).2
  obtain ⟨hge, hnge⟩ := chooseE_spec n d hn (Nat.ne_of_gt hd)
  obtain ⟨k, hk, hle, hkpos⟩ := clampE_eq f (chooseE n d)
  have hW : 0 < 2 ^ k * d := Nat.mul_pos (Nat.two_pow_pos k) hd
  have hq0 : k = 0 ∨ 2 ^ f.mbits ≤ n * funitDen f / (2 ^ k * d) := by
    rcases Nat.eq_zero_or_pos k with h | h
    · exact Or.inl h
    · rw [Nat.le_div_iff_mul_le hW]
      have := hkpos h
      exact Or.inr ((geI_cell f hb n d k 0 (by omega)).mp hge)
  have hq0' : n * funitDen f / (2 ^ k * d) < 2 * 2 ^ f.mbits := by
    rw [Nat.div_lt_iff_lt_mul hW, Nat.mul_comm 2, ← Nat.pow_succ]
    exact Nat.lt_of_not_le fun h => hnge (geI_mono (by omega) ((geI_cell f hb n d k 1 rfl).mpr h))
  have hq := roundQ_bounds (n * funitDen f) (2 ^ k * d)
  refine ⟨k, hq0, hq0', ?_⟩
  rw [roundRat_eq_cell f hb n d k hn hk,
    finish_eq f (Nat.le_trans (by decide) (expMax_ge_three f he)) _ k (Nat.le_trans hq.2 hq0')
      (hq0.imp_right (Nat.le_trans · hq.1))]

/-- Nearest, ties to even, in midpoint form: with `y` the value of the result and `x` that of any
pattern `u` up to the infinity pattern, both times `d`, `n/d` lies on `y`'s side of the midpoint of
`x` and `y`, and on the midpoint only if the result is even. -/
theorem roundRat_mid (f : FloatFmt) (hm : 1 ≤ f.mbits) (he : 2 ≤ f.ebits) (n d : Nat)
    (hn : n ≠ 0) (hd : 0 < d) :
    roundRat f n d ≤ f.infBits ∧
    ∀ u, u ≤ f.infBits →
      (fscaled f u * d < fscaled f (roundRat f n d) * d →
        fscaled f u * d + fscaled f (roundRat f n d) * d ≤ 2 * (n * funitDen f)) ∧
      (fscaled f (roundRat f n d) * d < fscaled f u * d →
        2 * (n * funitDen f) ≤ fscaled f u * d + fscaled f (roundRat f n d) * d) ∧
      (fscaled f u * d ≠ fscaled f (roundRat f n d) * d →
        fscaled f u * d + fscaled f (roundRat f n d) * d = 2 * (n * funitDen f) →
        roundRat f n d % 2 = 0) := by
  obtain ⟨k, hq0, hq0', hr⟩ := roundRat_cell f he n d hn hd
  have hW : 0 < 2 ^ k * d := Nat.mul_pos (Nat.two_pow_pos k) hd
  have hq := roundQ_bounds (n * funitDen f) (2 ^ k * d)
  rw [hr]
  refine ⟨Nat.min_le_right _ _, fun u hu => ?_⟩
  by_cases hov : k * 2 ^ f.mbits + roundQ (n * funitDen f) (2 ^ k * d) ≤ f.infBits
  · -- the result is the pattern of the cell `(k, q)`: `roundQ_mid`, every other grid point being
    -- outside the cell by `fscaled_gap`
    have hfs :=
      fscaled_cell f k _ (hq0.imp_right (Nat.le_trans · hq.1)) (Nat.le_trans hq.2 hq0') hov
    have hmid := roundQ_mid (n * funitDen f) (2 ^ k * d) (fscaled f u * d) hW (by
      rw [← Nat.mul_assoc, ← Nat.mul_assoc]
      exact (fscaled_gap f u _ k hq0).imp (Nat.mul_le_mul_right d) (Nat.mul_le_mul_right d))
    rw [← Nat.mul_assoc, ← hfs] at hmid
    rwa [Nat.min_eq_left hov, cell_mod_two f hm]
  · -- overflow: every grid value is at most that of infinity, which is at most `n/d`
    rw [Nat.min_eq_right (Nat.le_of_not_le hov)]
    have h1 : fscaled f u * d ≤ fscaled f f.infBits * d :=
      Nat.mul_le_mul_right _ (fscaled_le f u _ hu (Nat.le_refl _))
    have h2 : fscaled f f.infBits * d ≤ n * funitDen f :=
      calc fscaled f f.infBits * d
          ≤ n * funitDen f / (2 ^ k * d) * 2 ^ k * d := Nat.mul_le_mul_right _
            (fscaled_inf_le f he _ _ k hq.2 hq0' hq0 (Nat.lt_of_not_le hov))
        _ = n * funitDen f / (2 ^ k * d) * (2 ^ k * d) := Nat.mul_assoc ..
        _ ≤ n * funitDen f := Nat.div_mul_le_self ..
    -- (`f.infBits` unfolds to `f.expMax * 2 ^ f.mbits`, and `+ 0` reduces)
    refine ⟨fun _ => ?_, fun h => absurd h (Nat.not_lt_of_le h1),
      fun _ _ => cell_mod_two f hm f.expMax 0⟩
    rw [Nat.two_mul]
    exact Nat.le_trans (Nat.add_le_add_right h1 _) (Nat.add_le_add h2 h2)

theorem absDiff_le_iff {a c : Nat} (h : a < c) (X : Nat) :
    (absDiff a X ≤ absDiff c X ↔ 2 * X ≤ a + c) ∧ (absDiff c X ≤ absDiff a X ↔ a + c ≤ 2 * X) := by
  unfold absDiff
  omega

theorem absDiff_le_of_mid {x y N : Nat} (h1 : x < y → x + y ≤ 2 * N) (h2 : y < x → 2 * N ≤ x + y) :
    absDiff y N ≤ absDiff x N ∧ (absDiff y N = absDiff x N → x ≠ y → x + y = 2 * N) := by
  rcases Nat.lt_trichotomy x y with h | rfl | h
  · have hm := absDiff_le_iff h N
    exact ⟨hm.2.mpr (h1 h), fun e _ => Nat.le_antisymm (h1 h) (hm.1.mp (Nat.le_of_eq e.symm))⟩
  · exact ⟨Nat.le_refl _, fun _ hne => absurd rfl hne⟩
  · have hm := absDiff_le_iff h N
    rw [Nat.add_comm y x] at hm
    exact ⟨hm.1.mpr (h2 h), fun e _ => Nat.le_antisymm (hm.2.mp (Nat.le_of_eq e.symm)) (h2 h)⟩

end C03
end Scpi
