/-
A message with exactly one faulty unit, said in two ways: by the parts `pre ++ u :: suf` of the
message (`FaultAt`) and by the index of the one verdict that is not `ok` (`OneFault`).  The two
agree (`oneFault_of_faultAt`, `faultAt_of_oneFault`; the fact about lists behind it is
`oneOff_iff`); `FaultAt.split` says what such a message reports.
-/
import Scpi.Proofs.UnitVerdict

namespace Scpi
namespace M6
open Msg

/-- A header that does not resolve ends `specExec`, `reports` and `pathThrough` alike, so without
`allResolve` none of the three equations holds. -/
theorem specExec_append {σ : Type} (I : Iface σ) (pre rest : List MsgUnit) :
    ∀ (cur : Node) (w : Writer) (s : σ), allResolve I.root cur pre = true →
    specExec I cur (pre ++ rest) w s =
      specExec I (pathThrough I.root cur pre) rest (specExec I cur pre w s).1
        (specExec I cur pre w s).2 ∧
    reports I cur (pre ++ rest) w s =
      reports I cur pre w s ++
        reports I (pathThrough I.root cur pre) rest (specExec I cur pre w s).1
          (specExec I cur pre w s).2 ∧
    pathThrough I.root cur (pre ++ rest) =
      pathThrough I.root (pathThrough I.root cur pre) rest := by
  induction pre with
  | nil => exact fun _ _ _ _ => ⟨rfl, rfl, rfl⟩
  | cons u pre ih =>
    intro cur w s h
    obtain ⟨node, parent, hr, h⟩ := allResolve_cons h
    obtain ⟨h1, h2, h3⟩ := ih (parent.getD cur)
      (specUnit I node u.hdr.query (u.lits.map Lit.value) w s).1
      (specUnit I node u.hdr.query (u.lits.map Lit.value) w s).2 h
    simp only [List.cons_append, specExec, reports, pathThrough, hr, h1, h2, h3, and_self]

theorem verdicts_cons {σ : Type} (I : Iface σ) (cur : Node) (u : MsgUnit) (us : List MsgUnit)
    (w : Writer) (s : σ) :
    verdicts I cur (u :: us) w s =
      verdict I cur u w s ::
        match resolve I.root cur u.hdr.path with
        | none => []
        | some (node, parent) =>
          verdicts I (parent.getD cur) us
            (specUnit I node u.hdr.query (u.lits.map Lit.value) w s).1
            (specUnit I node u.hdr.query (u.lits.map Lit.value) w s).2 := by
  simp only [verdicts, reports, verdict]
  cases resolve I.root cur u.hdr.path with
  | none => rfl
  | some np => rfl

theorem reports_take {σ : Type} (I : Iface σ) : ∀ (us : List MsgUnit) (k : Nat) (cur : Node)
    (w : Writer) (s : σ), reports I cur (us.take k) w s = (reports I cur us w s).take k
  | [], _, _, _, _ => by rw [List.take_nil, reports, List.take_nil]
  | _ :: _, 0, _, _, _ => rfl
  | u :: us, k + 1, cur, w, s => by
    rw [List.take_succ_cons, reports, reports]
    cases resolve I.root cur u.hdr.path with
    | none => rw [List.take_succ_cons, List.take_nil]
    | some np => simp only [List.take_succ_cons, reports_take I us k]

theorem verdicts_all_ok {σ : Type} (I : Iface σ) (us : List MsgUnit) : ∀ (cur : Node) (w : Writer)
    (s : σ) (n : Nat), verdicts I cur us w s = List.replicate n .ok →
    allResolve I.root cur us = true ∧ n = us.length ∧
      ∃ cs : List (Nat × List TVal), cs.length = us.length ∧
        (reports I cur us w s).flatMap traceLog = cs.map callEv := by
  induction us with
  | nil =>
    intro _ _ _ n h
    cases n with
    | zero => exact ⟨rfl, rfl, [], rfl, rfl⟩
    | succ n => cases h
  | cons u us ih =>
    intro cur w s n h
    rw [verdicts_cons] at h
    cases n with
    | zero => cases h
    | succ n =>
      obtain ⟨h0, h1⟩ := List.cons.inj h
      cases hr : resolve I.root cur u.hdr.path with
      | none =>
        rw [verdict, hr] at h0
        cases h0
      | some np =>
        obtain ⟨node, parent⟩ := np
        rw [hr] at h1
        simp only [verdict, hr] at h0
        obtain ⟨hres, hn, cs, hl, hcs⟩ := ih _ _ _ n h1
        -- the verdict `ok` invokes
        have hi := (unitRun I node u.hdr.query (u.lits.map Lit.value) w s).isSome_inv
        rw [h0] at hi
        obtain ⟨c, hc⟩ := Option.isSome_iff_exists.1 hi
        refine ⟨by simp only [allResolve, hr, hres], by rw [hn, List.length_cons], c :: cs,
          by rw [List.length_cons, hl, List.length_cons], ?_⟩
        rw [reports, hr]
        simp only [List.flatMap_cons, h0, hc, hcs, List.map_cons]
        rfl

/-- `after` is conditional: behind the verdict `undefined` the units of `suf` are dropped and
have no verdicts. -/
structure FaultAt {σ : Type} (I : Iface σ) (cur : Node) (pre : List MsgUnit) (u : MsgUnit)
    (suf : List MsgUnit) (w : Writer) (s : σ) (v : UnitVerdict) : Prop where
  fault : v ≠ .ok
  before : verdicts I cur pre w s = List.replicate pre.length .ok
  here : verdict I (pathThrough I.root cur pre) u (specExec I cur pre w s).1 (specExec I cur pre w s).2 = v
  after : v ≠ .undefined →
    verdicts I (pathThrough I.root cur (pre ++ [u])) suf
      (specExec I cur (pre ++ [u]) w s).1 (specExec I cur (pre ++ [u]) w s).2 =
        List.replicate suf.length .ok

def OneFault {σ : Type} (I : Iface σ) (cur : Node) (us : List MsgUnit) (w : Writer) (s : σ) (k : Nat)
    (v : UnitVerdict) : Prop :=
  v ≠ .ok ∧ (verdicts I cur us w s)[k]? = some v ∧
    ∀ j v', j ≠ k → (verdicts I cur us w s)[j]? = some v' → v' = .ok

section
variable {σ : Type} {I : Iface σ} {cur : Node} {pre : List MsgUnit} {u : MsgUnit}
  {suf : List MsgUnit} {w : Writer} {s : σ} {v : UnitVerdict}

theorem FaultAt.resolves (h : FaultAt I cur pre u suf w s v) : allResolve I.root cur pre = true :=
  (verdicts_all_ok I pre cur w s _ h.before).1

theorem FaultAt.split (h : FaultAt I cur pre u suf w s v) :
    ∃ inv, inv.isSome = v.invokes ∧
      reports I (pathThrough I.root cur pre) [u] (specExec I cur pre w s).1
        (specExec I cur pre w s).2 = [(v, inv)] ∧
      reports I cur (pre ++ u :: suf) w s =
        reports I cur pre w s ++ (v, inv) ::
          (if v = .undefined then []
           else reports I (pathThrough I.root cur (pre ++ [u])) suf
             (specExec I cur (pre ++ [u]) w s).1 (specExec I cur (pre ++ [u]) w s).2) ∧
      specExec I cur (pre ++ u :: suf) w s =
        if v = .undefined then
          ((specExec I cur pre w s).1, I.onError (specExec I cur pre w s).2 (.std .UndefinedHeader))
        else
          specExec I (pathThrough I.root cur (pre ++ [u])) suf
            (specExec I cur (pre ++ [u]) w s).1 (specExec I cur (pre ++ [u]) w s).2 := by
  obtain ⟨e1, e2, _⟩ := specExec_append I pre (u :: suf) cur w s h.resolves
  obtain ⟨f1, _, f3⟩ := specExec_append I pre [u] cur w s h.resolves
  rw [e1, e2, f1, f3, ← h.here]
  generalize pathThrough I.root cur pre = cur', specExec I cur pre w s = ws
  cases hr : resolve I.root cur' u.hdr.path with
  | none =>
    refine ⟨none, ?_⟩
    simp only [verdict, reports, specExec, pathThrough, hr, if_true, UnitVerdict.invokes,
      Option.isSome_none, and_self]
  | some np =>
    obtain ⟨node, parent⟩ := np
    have hu := unitRun I node u.hdr.query (u.lits.map Lit.value) ws.1 ws.2
    refine ⟨invokedOn I node u.hdr.query (u.lits.map Lit.value), ?_⟩
    simp only [verdict, reports, specExec, pathThrough, hr, if_neg hu.ne_undefined, and_self,
      hu.isSome_inv]

theorem FaultAt.verdicts_eq (h : FaultAt I cur pre u suf w s v) :
    verdicts I cur (pre ++ u :: suf) w s =
      List.replicate pre.length .ok ++ v ::
        List.replicate (if v = .undefined then 0 else suf.length) .ok := by
  obtain ⟨inv, _, _, e, _⟩ := h.split
  rw [verdicts, e, List.map_append, List.map_cons, ← verdicts, h.before]
  by_cases hu : v = .undefined
  · rw [if_pos hu, if_pos hu]
    rfl
  · rw [if_neg hu, if_neg hu, ← verdicts, h.after hu]

end

theorem oneOff_iff {α : Type} (a v : α) (k : Nat) (L : List α) :
    (L[k]? = some v ∧ ∀ j v', j ≠ k → L[j]? = some v' → v' = a) ↔
      ∃ n, L = List.replicate k a ++ v :: List.replicate n a := by
  induction L generalizing k with
  | nil => simp
  | cons x L ih =>
    cases k with
    | zero =>
      simp only [List.getElem?_cons_zero, Option.some.injEq, List.replicate_zero, List.nil_append,
        List.cons.injEq, exists_and_left]
      refine and_congr_right fun _ => ⟨fun h => ⟨L.length, ?_⟩, ?_⟩
      · exact List.eq_replicate_iff.2 ⟨rfl, fun b hb => by
          obtain ⟨j, hj⟩ := List.mem_iff_getElem?.1 hb
          exact h (j + 1) b (Nat.succ_ne_zero j) hj⟩
      · rintro ⟨n, rfl⟩ j v' hj hv'
        obtain ⟨i, rfl⟩ := Nat.exists_eq_succ_of_ne_zero hj
        exact List.eq_of_mem_replicate (List.mem_of_getElem? hv')
    | succ k =>
      simp only [List.getElem?_cons_succ, List.replicate_succ, List.cons_append, List.cons.injEq,
        exists_and_left, ← ih k]
      constructor
      · rintro ⟨hk, h⟩
        exact ⟨h 0 x (Nat.succ_ne_zero k).symm rfl, hk, fun j v' hj => h (j + 1) v' (by omega)⟩
      · rintro ⟨rfl, hk, h⟩
        refine ⟨hk, fun j v' hj hv' => ?_⟩
        cases j with
        | zero => exact (Option.some.inj hv').symm
        | succ j => exact h j v' (by omega) hv'

theorem oneFault_of_faultAt {σ : Type} {I : Iface σ} {cur : Node} {pre : List MsgUnit} {u : MsgUnit}
    {suf : List MsgUnit} {w : Writer} {s : σ} {v : UnitVerdict}
    (h : FaultAt I cur pre u suf w s v) : OneFault I cur (pre ++ u :: suf) w s pre.length v :=
  ⟨h.fault, (oneOff_iff .ok v _ _).2 ⟨_, h.verdicts_eq⟩⟩

theorem faultAt_of_oneFault {σ : Type} {I : Iface σ} {cur : Node} {us : List MsgUnit} {w : Writer}
    {s : σ} {k : Nat} {v : UnitVerdict} (h : OneFault I cur us w s k v) :
    ∃ pre u suf, us = pre ++ u :: suf ∧ pre.length = k ∧ FaultAt I cur pre u suf w s v := by
  obtain ⟨hne, hk⟩ := h
  obtain ⟨n, hV⟩ := (oneOff_iff .ok v k _).1 hk
  -- the first `k` units are fine: they resolve, and there are `k` of them
  have hb : verdicts I cur (us.take k) w s = List.replicate k .ok := by
    rw [verdicts, reports_take, List.map_take, ← verdicts, hV,
      List.take_left' List.length_replicate]
  obtain ⟨hres, hlen, _⟩ := verdicts_all_ok I _ cur w s k hb
  -- so the verdicts of the other units, on what the first `k` leave, are `v :: replicate n ok`
  obtain ⟨_, e2, _⟩ := specExec_append I (us.take k) (us.drop k) cur w s hres
  rw [List.take_append_drop] at e2
  rw [verdicts, e2, List.map_append, ← verdicts, ← verdicts, hb] at hV
  have ht := List.append_cancel_left hV
  cases hd : us.drop k with
  | nil =>
    rw [hd] at ht
    cases ht
  | cons u suf =>
    rw [hd, verdicts_cons] at ht
    obtain ⟨hhere, htail⟩ := List.cons.inj ht
    obtain ⟨f1, _, f3⟩ := specExec_append I (us.take k) [u] cur w s hres
    refine ⟨us.take k, u, suf, by rw [← hd, List.take_append_drop], hlen.symm, hne, hlen ▸ hb,
      hhere, fun hund => ?_⟩
    rw [f1, f3]
    cases hr : resolve I.root (pathThrough I.root cur (us.take k)) u.hdr.path with
    | none => exact absurd (by rw [← hhere, verdict, hr]) hund
    | some np =>
      simp only [specExec, pathThrough, hr] at htail ⊢
      rw [htail, (verdicts_all_ok I suf _ _ _ n htail).2.1]

end M6
end Scpi
