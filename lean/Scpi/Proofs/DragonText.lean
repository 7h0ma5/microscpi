/-
The text layer of float `Display` (`digits_to_dec_str`), separated from the digit
generation (`formatShortest`): `floatText` is a sign, then `0` or `renderBody` of the
digits and exponent; `renderBody ds k` is plain decimal text and `parseFloat` reads it
as `digitsValue ds · 10^(k - len)`.
-/
import Scpi.Proofs.ConvDec
import Scpi.Proofs.ConvDecText
import Scpi.Spec.Decode

namespace Scpi
namespace Dragon

/-- The text of `digits_to_dec_str` (without sign) for digit values `ds` and exponent `k`. -/
def renderBody (ds : List Nat) (k : Int) : Bytes :=
  let dsb := ds.map (· + 48)
  let len : Int := (ds.length : Nat)
  if k ≤ 0 then [48, 46] ++ List.replicate (-k).toNat 48 ++ dsb
  else if k < len then dsb.take k.toNat ++ [46] ++ dsb.drop k.toNat
  else dsb ++ List.replicate (k - len).toNat 48

theorem zeroChunks_flatten : ∀ (fuel n : Nat), n < fuel →
    (zeroChunks fuel n).flatten = List.replicate n 48
  | fuel + 1, n, h => by
    unfold zeroChunks
    split
    · next h0 =>
      subst h0
      rfl
    · split
      · rw [List.flatten_cons, zeroChunks_flatten fuel (n - 64) (by omega),
          List.replicate_append_replicate]
        congr 1
        omega
      · simp

theorem floatText_eq (f : FloatFmt) (bits : Nat) :
    floatText f bits = (if f.negOf bits then [45] else []) ++
      (if f.expOf bits = 0 ∧ f.fracOf bits = 0 then [48]
       else renderBody (formatShortest f bits).1 (formatShortest f bits).2) := by
  unfold floatText floatPieces renderBody
  generalize formatShortest f bits = r
  -- `flatten` goes through the case distinction, and the sign on the right as well
  simp only [apply_ite List.flatten, List.flatten_append, zeroChunks_flatten, Nat.lt_add_one]
  cases f.negOf bits
  · simp
  · simp [apply_ite (List.cons 45)]

theorem decimalValue_ascii (ds : List Nat) :
    C03.decimalValue (ds.map (· + 48)) = C03.digitsValue 10 ds := by
  unfold C03.decimalValue
  rw [List.map_map]
  simp [Function.comp_def]

theorem decimalValue_zeros_append (n : Nat) (s : Bytes) :
    C03.decimalValue (List.replicate n 48 ++ s) = C03.decimalValue s := by
  unfold C03.decimalValue
  rw [List.map_append, List.map_replicate, C03.digitsValue_append, C03.digitsValue_zeros,
    Nat.zero_mul, Nat.zero_add]

theorem decimalValue_append_zeros (s : Bytes) (n : Nat) :
    C03.decimalValue (s ++ List.replicate n 48) = C03.decimalValue s * 10 ^ n := by
  unfold C03.decimalValue
  rw [List.map_append, List.map_replicate, C03.digitsValue_append, C03.digitsValue_zeros,
    List.length_replicate, Nat.add_zero]

structure Plain (body ip fp : Bytes) : Prop where
  ip_digits : C03.AllDigits ip
  fp_digits : C03.AllDigits fp
  ip_ne : ip ≠ []
  eq : (body = ip ∧ fp = []) ∨ (body = ip ++ 46 :: fp ∧ fp ≠ [])

theorem renderBody_shape (ds : List Nat) (k : Int) (hne : ds ≠ []) (hd : ∀ d ∈ ds, d < 10) :
    ∃ ip fp : Bytes, Plain (renderBody ds k) ip fp ∧
      C03.decimalValue (ip ++ fp) =
        C03.digitsValue 10 ds * 10 ^ (k - (ds.length : Nat)).toNat ∧
      fp.length = (((ds.length : Nat) : Int) - k).toNat := by
  have hdsb : C03.AllDigits (ds.map (· + 48)) := by
    intro b hb
    obtain ⟨d, hdm, rfl⟩ := List.mem_map.mp hb
    have := hd d hdm
    omega
  have hlen : 0 < ds.length := List.length_pos_iff.mpr hne
  have hdsbne : ds.map (· + 48) ≠ [] := by simpa using hne
  unfold renderBody
  simp only
  by_cases hk : k ≤ 0
  · -- `0.0…0ds`
    rw [if_pos hk, show (k - (ds.length : Nat)).toNat = 0 by omega, Nat.pow_zero, Nat.mul_one]
    refine ⟨[48], List.replicate (-k).toNat 48 ++ ds.map (· + 48),
      ⟨C03.allDigits_zeros 1, C03.allDigits_append (C03.allDigits_zeros _) hdsb, by simp,
        Or.inr ⟨by simp, by simp [hne]⟩⟩, ?_, ?_⟩
    · rw [← List.append_assoc, show [48] = List.replicate 1 48 from rfl,
        List.replicate_append_replicate, decimalValue_zeros_append, decimalValue_ascii]
    · simp only [List.length_append, List.length_replicate, List.length_map]
      omega
  · rw [if_neg hk]
    by_cases hk2 : k < (ds.length : Nat)
    · -- the point inside `ds`
      rw [if_pos hk2, show (k - (ds.length : Nat)).toNat = 0 by omega, Nat.pow_zero, Nat.mul_one]
      refine ⟨(ds.map (· + 48)).take k.toNat, (ds.map (· + 48)).drop k.toNat,
        ⟨fun b hb => hdsb b (List.mem_of_mem_take hb), fun b hb => hdsb b (List.mem_of_mem_drop hb),
          fun h => ?_, Or.inr ⟨by simp, ?_⟩⟩, ?_, ?_⟩
      · rcases List.take_eq_nil_iff.mp h with h | h
        · omega
        · exact hdsbne h
      · rw [Ne, List.drop_eq_nil_iff, List.length_map]
        omega
      · rw [List.take_append_drop, decimalValue_ascii]
      · simp only [List.length_drop, List.length_map]
        omega
    · -- `ds0…0`
      rw [if_neg hk2]
      refine ⟨ds.map (· + 48) ++ List.replicate (k - (ds.length : Nat)).toNat 48, [],
        ⟨C03.allDigits_append hdsb (C03.allDigits_zeros _), C03.allDigits_nil, by simp [hne],
          Or.inl ⟨rfl, rfl⟩⟩, ?_, ?_⟩
      · rw [List.append_nil, decimalValue_append_zeros, decimalValue_ascii]
      · simp only [List.length_nil]
        omega

theorem isDig_of_allDigits {s : Bytes} (hs : C03.AllDigits s) : ∀ b ∈ s, C04.isDig b = true := by
  intro b hb
  simp [C04.isDig, (hs b hb).1, (hs b hb).2]

theorem strip_sign (neg : Bool) (c : Nat) (rest : Bytes) (hc : 48 ≤ c ∧ c ≤ 57) :
    (if ((if neg then [45] else []) ++ c :: rest).head? = some 45
      then ((if neg then [45] else []) ++ c :: rest).tail
      else (if neg then [45] else []) ++ c :: rest) = c :: rest := by
  cases neg
  · have : c ≠ 45 := by omega
    simp [this]
  · simp

theorem isPlainDecimal_of_plain (neg : Bool) {body ip fp : Bytes} (h : Plain body ip fp) :
    C04.isPlainDecimal ((if neg then [45] else []) ++ body) = true := by
  obtain ⟨hip, hfp, hipne, hs⟩ := h
  obtain ⟨c, ip', rfl⟩ := List.exists_cons_of_ne_nil hipne
  have hc := (C03.allDigits_cons.mp hip).1
  have hipd := isDig_of_allDigits hip
  -- in both cases the body is `ip` followed by something that does not begin with a digit
  obtain ⟨tl, rfl, htl⟩ : ∃ tl, body = (c :: ip') ++ tl ∧ (tl = [] ∨ tl = 46 :: fp ∧ fp ≠ []) := by
    rcases hs with ⟨h, _⟩ | ⟨h, hne⟩
    · exact ⟨[], by rw [h, List.append_nil], Or.inl rfl⟩
    · exact ⟨46 :: fp, h, Or.inr ⟨rfl, hne⟩⟩
  unfold C04.isPlainDecimal
  rw [List.cons_append]
  simp only [strip_sign neg c _ hc]
  rw [← List.cons_append, List.takeWhile_append_of_pos hipd, List.dropWhile_append_of_pos hipd]
  rcases htl with rfl | ⟨rfl, hfpne⟩
  · simp
  · have := List.all_eq_true.mpr (isDig_of_allDigits hfp)
    simp [C04.isDig, this, hfpne]

theorem parseFloat_of_plain (f : FloatFmt)
    (hsound : ∀ mant e, roundDec f mant e = C03.roundDecExact f mant e) (neg : Bool)
    {body ip fp : Bytes} (h : Plain body ip fp) :
    parseFloat f ((if neg then [45] else []) ++ body) =
      some (roundRat f (C03.decimalValue (ip ++ fp)) (10 ^ fp.length) +
        (if neg then f.signBit else 0)) := by
  obtain ⟨hip, hfp, hipne, hs⟩ := h
  have hdec : C03.IsDecimalText body (C03.decimalValue (ip ++ fp)) (-(fp.length : Int)) := by
    refine ⟨ip, fp, [], 0, hip, hfp, by simp [hipne], C03.IsExponent.absent, ?_, rfl, by omega⟩
    rcases hs with ⟨h, h2⟩ | ⟨h, _⟩
    · exact Or.inl ⟨by rw [h, List.append_nil], h2⟩
    · exact Or.inr (by rw [h, List.append_nil])
  have := C03.parseFloat_signed f (sign := if neg then some 45 else none)
    (fun c hc => by cases neg <;> cases hc; exact .inr rfl) hdec
  rw [hsound, C03.roundDecExact_eq, Int.neg_neg, Int.toNat_natCast,
    Int.toNat_neg_natCast, Nat.pow_zero, Nat.mul_one] at this
  cases neg <;> exact this

/-- `1.5` is digits `[1, 5]` with `k = 1`; `0.015` has `k = -1`; `1500` has `k = 4`. -/
example : renderBody [1, 5] 1 = [49, 46, 53] := by decide +kernel
example : renderBody [1, 5] (-1) = [48, 46, 48, 49, 53] := by decide +kernel
example : renderBody [1, 5] 4 = [49, 53, 48, 48] := by decide +kernel
example : floatText fmt64 0x3FF8000000000000 = [49, 46, 53] := by decide +kernel

end Dragon
end Scpi
