/-
C03, floats: consequences of nearest-ties-to-even (where `roundRat` steps from one pattern to the
next, when it overflows to infinity, when it returns zero) and with them the soundness of the two
magnitude shortcuts of `roundDec`.
-/
import Scpi.Proofs.ConvRound

namespace Scpi
namespace C03

theorem roundRat_zero_num (f : FloatFmt) (d : Nat) : roundRat f 0 d = 0 :=
  if_pos rfl

theorem roundRat_le_infBits (f : FloatFmt) (hm : 1 ≤ f.mbits) (he : 2 ≤ f.ebits) (n d : Nat)
    (hd : 0 < d) : roundRat f n d ≤ f.infBits := by
  by_cases hn : n = 0
  · rw [hn, roundRat_zero_num]
    exact Nat.zero_le _
  · exact (roundRat_mid f hm he n d hn hd).1

/-- Where rounding steps from one pattern to the next: below the midpoint of the values of `u` and
`u + 1`, or on it with `u` even. -/
theorem roundRat_le_iff (f : FloatFmt) (hm : 1 ≤ f.mbits) (he : 2 ≤ f.ebits) (n d : Nat)
    (hd : 0 < d) (u : Nat) (hu : u < f.infBits) :
    roundRat f n d ≤ u ↔
      2 * (n * funitDen f) < (fscaled f u + fscaled f (u + 1)) * d ∨
      (2 * (n * funitDen f) = (fscaled f u + fscaled f (u + 1)) * d ∧ u % 2 = 0) := by
  have hlt : fscaled f u * d < fscaled f (u + 1) * d :=
    Nat.mul_lt_mul_of_pos_right (fscaled_lt f u (u + 1) (Nat.lt_succ_self u) hu) hd
  rw [Nat.add_mul]
  by_cases hn : n = 0
  · rw [hn, roundRat_zero_num, Nat.zero_mul]
    exact ⟨fun _ => Or.inl (by omega), fun _ => Nat.zero_le _⟩
  obtain ⟨hb, hmid⟩ := roundRat_mid f hm he n d hn hd
  -- the grid is strictly increasing …
  have hval : ∀ {x}, x ≤ f.infBits → fscaled f x * d = fscaled f (roundRat f n d) * d →
      x = roundRat f n d :=
    fun hx h => fscaled_inj f _ _ hx hb (Nat.eq_of_mul_eq_mul_right hd h)
  -- … and `N = n · funitDen f` lies on the result's side of its midpoints with `a` and `c`, the
  -- values of `u` and `u + 1` times `d`
  constructor
  · -- the result `y` is at most `a < c`, so `2N ≤ y + c ≤ a + c`; equality forces `y = a`, and a
    -- result on the midpoint is even
    intro hbu
    have hy := Nat.mul_le_mul_right d (fscaled_le f _ u hbu (Nat.le_of_lt hu))
    have h2 := (hmid (u + 1) hu).2.1 (Nat.lt_of_le_of_lt hy hlt)
    have m3 := (hmid (u + 1) hu).2.2 (Nat.ne_of_gt (Nat.lt_of_le_of_lt hy hlt))
    have := @hval u (Nat.le_of_lt hu)
    omega
  · -- a result `y ≥ c > a` has `a + c ≤ a + y ≤ 2N`; equality forces `y = c`, which is then even,
    -- so `u` is odd
    intro h
    apply Nat.le_of_not_lt
    intro hub
    have hy := Nat.mul_le_mul_right d (fscaled_le f (u + 1) _ hub hb)
    have h1 := (hmid u (Nat.le_of_lt hu)).1 (Nat.lt_of_lt_of_le hlt hy)
    have m3 := (hmid u (Nat.le_of_lt hu)).2.2 (Nat.ne_of_lt (Nat.lt_of_lt_of_le hlt hy))
    have := @hval (u + 1) hu
    omega

/-- Overflow from the midpoint of the largest finite value and `2^(expMax-bias)` up; the tie goes to
infinity because the largest finite pattern is odd, as IEEE 754 prescribes. -/
theorem roundRat_eq_infBits_iff (f : FloatFmt) (hm : 1 ≤ f.mbits) (he : 2 ≤ f.ebits) (n d : Nat)
    (hd : 0 < d) :
    roundRat f n d = f.infBits ↔
      (fscaled f (f.infBits - 1) + fscaled f f.infBits) * d ≤ 2 * (n * funitDen f) := by
  have hinf := two_le_infBits f hm he
  have hle := roundRat_le_infBits f hm he n d hd
  -- (`f.infBits` unfolds to `f.expMax * 2 ^ f.mbits`, and `+ 0` reduces)
  have heven : f.infBits % 2 = 0 := cell_mod_two f hm f.expMax 0
  have h := roundRat_le_iff f hm he n d hd (f.infBits - 1) (by omega)
  rw [Nat.sub_add_cancel (by omega)] at h
  omega

theorem roundRat_eq_zero_iff (f : FloatFmt) (hm : 1 ≤ f.mbits) (he : 2 ≤ f.ebits) (n d : Nat)
    (hd : 0 < d) :
    roundRat f n d = 0 ↔ 2 * (n * funitDen f) ≤ d := by
  have h := roundRat_le_iff f hm he n d hd 0
    (Nat.lt_of_lt_of_le (by decide) (two_le_infBits f hm he))
  rw [fscaled_zero, fscaled_one f hm, Nat.zero_add, Nat.one_mul] at h
  omega

theorem decLen_bounds (mant : Nat) (h : mant ≠ 0) :
    10 ^ (decLen mant - 1) ≤ mant ∧ mant < 10 ^ decLen mant := by
  unfold decLen
  rw [if_neg h]
  have hpos : 0 < (Nat.toDigits 10 mant).length := Nat.length_toDigits_pos
  constructor
  · by_cases h1 : (Nat.toDigits 10 mant).length - 1 = 0
    · rw [h1]
      exact Nat.pos_of_ne_zero h
    · refine Nat.le_of_not_lt fun hlt => ?_
      have := (Nat.length_toDigits_le_iff (by decide) (Nat.pos_of_ne_zero h1)).mpr hlt
      omega
  · exact (Nat.length_toDigits_le_iff (by decide) hpos).mp (Nat.le_refl _)

/-- `roundDec` without the shortcuts: `roundRat` on the exact value `mant · 10^exp10`. -/
def roundDecExact (f : FloatFmt) (mant : Nat) (exp10 : Int) : Nat :=
  if exp10 ≥ 0 then roundRat f (mant * 10 ^ exp10.toNat) 1
  else roundRat f mant (10 ^ (-exp10).toNat)

theorem roundDecExact_eq (f : FloatFmt) (mant : Nat) (e : Int) :
    roundDecExact f mant e = roundRat f (mant * 10 ^ e.toNat) (10 ^ (-e).toNat) := by
  unfold roundDecExact
  split
  · rw [show (-e).toNat = 0 by omega, Nat.pow_zero]
  · rw [show e.toNat = 0 by omega, Nat.pow_zero, Nat.mul_one]

theorem roundRat_inf_of_ge (f : FloatFmt) (hm : 1 ≤ f.mbits) (he : 2 ≤ f.ebits) {H : Nat}
    (hhi : fscaled f f.infBits ≤ H * funitDen f) (n d : Nat) (hd : 0 < d)
    (h : H * d ≤ n) : roundRat f n d = f.infBits := by
  rw [roundRat_eq_infBits_iff f hm he n d hd]
  have hle := fscaled_le f (f.infBits - 1) f.infBits (Nat.sub_le _ _) (Nat.le_refl _)
  calc (fscaled f (f.infBits - 1) + fscaled f f.infBits) * d
      ≤ 2 * (H * funitDen f) * d := Nat.mul_le_mul_right d
        (Nat.two_mul _ ▸ Nat.add_le_add (Nat.le_trans hle hhi) hhi)
    _ = 2 * (H * d * funitDen f) := by ac_rfl
    _ ≤ 2 * (n * funitDen f) := Nat.mul_le_mul_left 2 (Nat.mul_le_mul_right _ h)

theorem roundRat_zero_of_le (f : FloatFmt) (hm : 1 ≤ f.mbits) (he : 2 ≤ f.ebits) {L : Nat}
    (hlo : 2 * funitDen f ≤ L) (n d : Nat) (hd : 0 < d) (h : n * L ≤ d) :
    roundRat f n d = 0 := by
  rw [roundRat_eq_zero_iff f hm he n d hd]
  calc 2 * (n * funitDen f) = n * (2 * funitDen f) := by ac_rfl
    _ ≤ n * L := Nat.mul_le_mul_left n hlo
    _ ≤ d := h

/-- The shortcuts are sound for any format whose infinity pattern stands for at most `10^400` and
whose smallest sub-normal is at least `2 · 10^-401`. -/
theorem roundDec_eq_exact (f : FloatFmt) (hm : 1 ≤ f.mbits) (he : 2 ≤ f.ebits)
    (hhi : fscaled f f.infBits ≤ 10 ^ 400 * funitDen f) (hlo : 2 * funitDen f ≤ 10 ^ 401)
    (mant : Nat) (exp10 : Int) :
    roundDec f mant exp10 = roundDecExact f mant exp10 := by
  unfold roundDec
  by_cases hmz : mant = 0
  · rw [if_pos hmz, roundDecExact_eq, hmz, Nat.zero_mul, roundRat_zero_num]
  rw [if_neg hmz]
  obtain ⟨hl1, hl2⟩ := decLen_bounds mant hmz
  -- (substitutes the `let`)
  simp only []
  generalize decLen mant = l at *
  have hpow : ∀ {a b : Nat}, a ≤ b → 10 ^ a ≤ 10 ^ b := Nat.pow_le_pow_right (by decide)
  have hd : 0 < 10 ^ (-exp10).toNat := Nat.pow_pos (by decide)
  -- `omega` is kept from looking at the powers of ten in `hhi`, `hlo`, `hl1`, `hl2`
  by_cases h1 : exp10 + (l : Int) > 400
  · rw [if_pos h1, roundDecExact_eq]
    refine (roundRat_inf_of_ge f hm he hhi _ _ hd ?_).symm
    calc 10 ^ 400 * 10 ^ (-exp10).toNat = 10 ^ (400 + (-exp10).toNat) := (Nat.pow_add ..).symm
      _ ≤ 10 ^ (l - 1 + exp10.toNat) := hpow (by clear hhi hlo hl1 hl2; omega)
      _ = 10 ^ (l - 1) * 10 ^ exp10.toNat := Nat.pow_add ..
      _ ≤ mant * 10 ^ exp10.toNat := Nat.mul_le_mul_right _ hl1
  rw [if_neg h1]
  by_cases h2 : exp10 + (l : Int) < -400
  · rw [if_pos h2, roundDecExact_eq]
    refine (roundRat_zero_of_le f hm he hlo _ _ hd ?_).symm
    calc mant * 10 ^ exp10.toNat * 10 ^ 401
        ≤ 10 ^ l * 10 ^ exp10.toNat * 10 ^ 401 :=
          Nat.mul_le_mul_right _ (Nat.mul_le_mul_right _ (Nat.le_of_lt hl2))
      _ = 10 ^ (l + exp10.toNat + 401) := by rw [Nat.pow_add, Nat.pow_add]
      _ ≤ 10 ^ (-exp10).toNat := hpow (by clear hhi hlo hl1 hl2; omega)
  rw [if_neg h2]
  rfl

end C03
end Scpi
