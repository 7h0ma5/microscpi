/-
The stream machine of Scpi/Spec/Stream.lean on blocks of bytes: a block without newline
is appended to the pending bytes, and the overflow rule can only fire on the last byte of a
block that fits in the free part of the buffer, so it may be applied once per read instead
of once per byte.
-/
import Scpi.Spec.Stream
import Scpi.Proofs.RunSteps

namespace Scpi

variable {σ : Type} (I : Iface σ) (n : Nat)

theorem filter_nonRead_wf (b : Bytes) :
    List.filter PEv.nonRead [PEv.w b, PEv.f] = [PEv.w b, PEv.f] := rfl

theorem streamFeed_nl (st : SpecState σ) :
    streamFeed I n st 10 = streamNewline I n { st with pending := st.pending ++ [10] } := rfl

theorem streamFeed_ne (st : SpecState σ) {b : Nat} (hb : b ≠ 10) :
    streamFeed I n st b = { st with pending := st.pending ++ [b] } := if_neg hb

theorem foldl_feed_plain : ∀ (l : Bytes) (st : SpecState σ),
    (∀ b ∈ l, b ≠ 10) →
    l.foldl (streamFeed I n) st = { st with pending := st.pending ++ l }
  | [], st, _ => by rw [List.append_nil]; rfl
  | x :: l, st, h => by
    rw [List.foldl_cons, streamFeed_ne I n st (h x List.mem_cons_self),
      foldl_feed_plain l _ fun b hb => h b (List.mem_cons_of_mem _ hb), List.append_assoc]
    rfl

theorem foldl_feed_nl (a c : Bytes) (st : SpecState σ) (ha : ∀ b ∈ a, b ≠ 10) :
    (a ++ 10 :: c).foldl (streamFeed I n) st =
      c.foldl (streamFeed I n)
        (streamNewline I n { st with pending := st.pending ++ (a ++ [10]) }) := by
  rw [List.foldl_append, List.foldl_cons, foldl_feed_plain I n a st ha, streamFeed_nl,
    List.append_assoc]

theorem streamFeed_pending_le (st : SpecState σ) (b : Nat) :
    (streamFeed I n st b).pending.length ≤ st.pending.length + 1 := by
  by_cases hb : b = 10
  · subst hb
    -- what `run_from` leaves unparsed at a newline is a suffix of what was pending
    have := (runFrom_good I st.header (st.pending ++ [10]) { cap := some n } st.user).2.length_le
    rwa [List.length_append] at this
  · rw [streamFeed_ne I n st hb, List.length_append]
    exact Nat.le_refl _

theorem streamDiscard_id (st : SpecState σ)
    (h : st.pending.length < n) : streamDiscard I n st = st := by
  unfold streamDiscard
  rw [if_neg (by omega)]

theorem foldl_spec_eq_feed (l : Bytes) (st : SpecState σ)
    (h : st.pending.length + l.length < n) :
    l.foldl (streamSpec I n) st = l.foldl (streamFeed I n) st := by
  induction l generalizing st with
  | nil => rfl
  | cons x rest ih =>
    rw [List.length_cons] at h
    have h1 := streamFeed_pending_le I n st x
    rw [List.foldl_cons, List.foldl_cons,
      show streamSpec I n st x = streamFeed I n st x from streamDiscard_id I n _ (by omega)]
    exact ih _ (by omega)

theorem foldl_spec_chunk (l : Bytes) (st : SpecState σ)
    (h0 : st.pending.length < n) (h : st.pending.length + l.length ≤ n) :
    l.foldl (streamSpec I n) st = streamDiscard I n (l.foldl (streamFeed I n) st) := by
  rcases List.eq_nil_or_concat l with rfl | ⟨l', b, rfl⟩
  · exact (streamDiscard_id I n st h0).symm
  · rw [List.concat_eq_append, List.length_append] at h
    rw [List.concat_eq_append, List.foldl_append, List.foldl_append,
      foldl_spec_eq_feed I n l' st h]
    rfl

end Scpi
