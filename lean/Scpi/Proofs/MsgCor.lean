/-
What the corollaries of `Scpi.Msg.run_render` (Scpi/Props/RunRenderCor.lean) share: the
equations of `specExec` and `dropSafe` unit by unit, `run_render_mapCase` (C11: lower and upper
case) and `dispatch_unit` (C01: compound and common header).
-/
import Scpi.Proofs.MsgRun
import Scpi.Proofs.RunLog
import Scpi.Props.C11
import Scpi.Props.RunRender

namespace Scpi
namespace Msg

theorem specExec_nil {σ : Type} (I : Iface σ) (cur : Node) (w : Writer) (s : σ) :
    specExec I cur [] w s = (w, s) := rfl

theorem specExec_cons_resolved {σ : Type} (I : Iface σ) (cur : Node) (u : MsgUnit) (us : List MsgUnit)
    (w : Writer) (s : σ) (node : Node) (parent : Option Node)
    (hr : resolve I.root cur u.hdr.path = some (node, parent)) :
    specExec I cur (u :: us) w s =
      specExec I (parent.getD cur) us (onNode I node u (w, s)).1 (onNode I node u (w, s)).2 := by
  simp only [specExec, hr, onNode]

theorem specExec_cons_undefined {σ : Type} (I : Iface σ) (cur : Node) (u : MsgUnit) (us : List MsgUnit)
    (w : Writer) (s : σ) (hr : resolve I.root cur u.hdr.path = none) :
    specExec I cur (u :: us) w s = (w, I.onError s (.std .UndefinedHeader)) := by
  simp only [specExec, hr]

theorem dropSafe_cons_resolved (root cur : Node) (u : MsgUnit) (us : List MsgUnit) (node : Node)
    (parent : Option Node) (hr : resolve root cur u.hdr.path = some (node, parent)) :
    dropSafe root cur (u :: us) = dropSafe root (parent.getD cur) us := by
  simp only [dropSafe, hr]

theorem dropSafe_cons_undefined (root cur : Node) (u : MsgUnit) (us : List MsgUnit)
    (hr : resolve root cur u.hdr.path = none) :
    dropSafe root cur (u :: us) = (u :: us).all unitNlFree := by
  simp only [dropSafe, hr]

theorem specExec_eq_foldl {σ : Type} (I : Iface σ) : ∀ (us : List MsgUnit) (cur : Node) (w : Writer)
    (s : σ), allResolve I.root cur us = true →
    (nodesOf I.root cur us).length = us.length ∧
    specExec I cur us w s =
      ((nodesOf I.root cur us).zip us).foldl (fun ws p => onNode I p.1 p.2 ws) (w, s)
  | [], _, _, _, _ => ⟨rfl, rfl⟩
  | u :: us, cur, w, s, h => by
    obtain ⟨node, parent, hr, h⟩ := allResolve_cons h
    obtain ⟨h1, h2⟩ := specExec_eq_foldl I us (parent.getD cur)
      (onNode I node u (w, s)).1 (onNode I node u (w, s)).2 h
    refine ⟨?_, ?_⟩
    · simp only [nodesOf, hr, List.length_cons, h1]
    · rw [specExec_cons_resolved I cur u us w s node parent hr, h2]
      simp only [nodesOf, hr, List.zip_cons_cons, List.foldl_cons]

theorem convertAll_ok_iff (tys : List Ty) (args : List Value) (tvs : List TVal)
    (hl : args.length = tys.length) :
    convertAll tys args = .ok tvs ↔
      ∃ (_ : tvs.length = tys.length), ∀ (i : Nat) (hi : i < tys.length),
        convert tys[i] (args[i]'(by omega)) = .ok (tvs[i]'(by omega)) :=
  ((convertArgs_iff_convertAll hl).1 tvs).symm.trans (convertArgs_ok_iff tys args tvs (by omega))

theorem convertAll_error_iff (tys : List Ty) (args : List Value) (e : Err)
    (hl : args.length = tys.length) :
    convertAll tys args = .error e ↔
      ∃ (i : Nat) (hi : i < tys.length), convert tys[i] (args[i]'(by omega)) = .error e ∧
        ∀ (j : Nat) (hj : j < i), ∃ tv, convert (tys[j]'(by omega)) (args[j]'(by omega)) = .ok tv :=
  ((convertArgs_iff_convertAll hl).2 e).symm.trans (convertArgs_err_iff tys args e (by omega))

def SameUpToCase : List MsgUnit → List MsgUnit → Prop
  | [], [] => True
  | u :: us, v :: vs =>
    C11.PathSameIgnoringCase u.hdr.path v.hdr.path ∧ u.hdr.query = v.hdr.query ∧ u.lits = v.lits ∧
      SameUpToCase us vs
  | _, _ => False

def mapUnitCase (f : Nat → Nat) (u : MsgUnit) : MsgUnit :=
  { u with hdr := { u.hdr with path := C11.mapPath f u.hdr.path } }

def mapMsgCase (f : Nat → Nat) (m : List (MsgUnit × Lex)) : List (MsgUnit × Lex) :=
  m.map fun p => (mapUnitCase f p.1, p.2)

theorem nlFree_sameUpToCase : ∀ (us vs : List MsgUnit), SameUpToCase us vs →
    us.all unitNlFree = vs.all unitNlFree
  | [], [], _ => rfl
  | [], _ :: _, h => absurd h id
  | _ :: _, [], h => absurd h id
  | u :: us, v :: vs, h => by
    obtain ⟨_, _, hl, ht⟩ := h
    simp only [List.all_cons, unitNlFree, hl, nlFree_sameUpToCase us vs ht]

theorem specExec_sameUpToCase {σ : Type} (I : Iface σ) : ∀ (us vs : List MsgUnit),
    SameUpToCase us vs → ∀ (cur : Node) (w : Writer) (s : σ),
    specExec I cur us w s = specExec I cur vs w s
  | [], [], _, _, _, _ => rfl
  | [], _ :: _, h, _, _, _ => absurd h id
  | _ :: _, [], h, _, _, _ => absurd h id
  | u :: us, v :: vs, h, cur, w, s => by
    obtain ⟨hp, hq, hl, ht⟩ := h
    simp only [specExec, C11.resolve_case_insensitive I.root cur hp, hq, hl]
    cases resolve I.root cur v.hdr.path with
    | none => rfl
    | some np =>
      obtain ⟨node, parent⟩ := np
      exact specExec_sameUpToCase I us vs ht _ _ _

theorem dropSafe_sameUpToCase (root : Node) : ∀ (us vs : List MsgUnit),
    SameUpToCase us vs → ∀ cur : Node, dropSafe root cur us = dropSafe root cur vs
  | [], [], _, _ => rfl
  | [], _ :: _, h, _ => absurd h id
  | _ :: _, [], h, _ => absurd h id
  | u :: us, v :: vs, h, cur => by
    have hall := nlFree_sameUpToCase (u :: us) (v :: vs) h
    obtain ⟨hp, hq, hl, ht⟩ := h
    simp only [dropSafe, C11.resolve_case_insensitive root cur hp]
    cases resolve root cur v.hdr.path with
    | none => exact hall
    | some np =>
      obtain ⟨node, parent⟩ := np
      exact dropSafe_sameUpToCase root us vs ht _

theorem sameUpToCase_map {f : Nat → Nat}
    (hf : ∀ p : HdrPath, C11.PathSameIgnoringCase p (C11.mapPath f p)) :
    ∀ m : List (MsgUnit × Lex), SameUpToCase (units m) (units (mapMsgCase f m))
  | [] => trivial
  | _ :: m => ⟨hf _, rfl, rfl, sameUpToCase_map hf m⟩

theorem wfMsg_map {f : Nat → Nat}
    (hf : ∀ p : HdrPath, C11.PathSameIgnoringCase p (C11.mapPath f p)) (m : List (MsgUnit × Lex)) :
    wfMsg (mapMsgCase f m) = wfMsg m := by
  have hu (u : MsgUnit) : (mapUnitCase f u).wf = u.wf := by
    rw [MsgUnit.wf, MsgUnit.wf, C11.path_wf_case_insensitive (hf u.hdr.path)]
    rfl
  simp only [wfMsg, mapMsgCase, List.all_map, Function.comp_def, hu]
  rfl

theorem run_render_mapCase {σ : Type} (I : Iface σ) {f : Nat → Nat}
    (hf : ∀ p : HdrPath, C11.PathSameIgnoringCase p (C11.mapPath f p)) (m : List (MsgUnit × Lex))
    (cur : Node) (rest : Bytes) (w : Writer) (s : σ) (hne : m ≠ []) (hw : wfMsg m = true)
    (hsafe : dropSafe I.root cur (units m) = true) :
    wfMsg (mapMsgCase f m) = true ∧
    runFrom I cur (renderMsg (mapMsgCase f m) ++ rest) w s =
      runFrom I cur (renderMsg m ++ rest) w s := by
  have hw' := (wfMsg_map hf m).trans hw
  have hu := sameUpToCase_map hf m
  refine ⟨hw', ?_⟩
  rw [run_render I m cur rest w s hne hw hsafe,
    run_render I (mapMsgCase f m) cur rest w s (fun e => hne (List.map_eq_nil_iff.1 e)) hw'
      (dropSafe_sameUpToCase I.root _ _ hu cur ▸ hsafe),
    specExec_sameUpToCase I _ _ hu]

theorem dispatch_unit {σ : Type} (I : Iface σ) (u : MsgUnit) (ℓ : Lex) (w : Writer) (s : σ)
    (hu : u.wf = true) (hℓ : ℓ.wf = true) (hfit : ℓ.fits u = true)
    (hfree : resolve I.root I.root u.hdr.path = none → unitNlFree u = true) :
    run I (renderMsg [(u, ℓ)]) w s =
      match resolve I.root I.root u.hdr.path with
      | some (node, _) => finished I (onNode I node u (w, s))
      | none => finished I (w, I.onError s (.std .UndefinedHeader)) := by
  have hw : wfMsg [(u, ℓ)] = true := by
    simp only [wfMsg, List.all_cons, List.all_nil, hu, hℓ, hfit, Bool.and_self]
  have hd : dropSafe I.root I.root (units [(u, ℓ)]) = true := by
    simp only [units, List.map_cons, List.map_nil, dropSafe]
    cases hr : resolve I.root I.root u.hdr.path with
    | none => simp only [List.all_cons, List.all_nil, hfree hr, Bool.and_self]
    | some np => rfl
  rw [run_render_run I _ w s (List.cons_ne_nil _ _) hw hd]
  simp only [units, List.map_cons, List.map_nil, specExec]
  cases resolve I.root I.root u.hdr.path with
  | none => rfl
  | some np => rfl

theorem fits_nlFree_of_no_lits {u : MsgUnit} (ℓ : Lex) (hl : u.lits = []) :
    ℓ.fits u = true ∧ unitNlFree u = true := by
  simp only [Lex.fits, unitNlFree, hl, List.isEmpty_nil, Bool.true_or, List.all_nil, and_self]

end Msg
end Scpi
