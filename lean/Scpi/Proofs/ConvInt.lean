/-
C03, integers: the model's `fromStrRadix` returns exactly the values that the specification
`IsNumeral` gives and that lie in the range of the type (`fromStrRadix_eq_some_iff`); `convertInt`
is then decided by the kind of program data.
-/
import Scpi.Spec.Numerals

namespace Scpi
namespace C03

theorem digitVal_eq_some {radix b d : Nat} :
    digitVal radix b = some d ↔ charDigit b = some d ∧ d < radix := by
  show (match charDigit b with
        | some d => if d < radix then some d else none
        | none => none) = some d ↔ _
  cases charDigit b with
  | none => exact ⟨nofun, fun h => nomatch h.1⟩
  | some d' =>
    show (if d' < radix then some d' else none) = some d ↔ _
    rw [Option.ite_none_right_eq_some, Option.some.injEq]
    exact ⟨fun ⟨h, e⟩ => ⟨e, e ▸ h⟩, fun ⟨e, h⟩ => ⟨e ▸ h, e⟩⟩

theorem isDigits_nil_iff {radix : Nat} {ds : List Nat} : IsDigits radix [] ds ↔ ds = [] := by
  cases ds <;> simp [IsDigits]

theorem isDigits_cons_iff {radix b : Nat} {s : Bytes} {ds : List Nat} :
    IsDigits radix (b :: s) ds ↔
      ∃ d ds', ds = d :: ds' ∧ charDigit b = some d ∧ d < radix ∧ IsDigits radix s ds' := by
  unfold IsDigits
  cases ds with
  | nil => simp
  | cons d ds' =>
    simp only [List.map_cons, List.cons.injEq, List.forall_mem_cons]
    constructor
    · rintro ⟨⟨h1, h2⟩, h3, h4⟩
      exact ⟨d, ds', ⟨rfl, rfl⟩, h1, h3, h2, h4⟩
    · rintro ⟨_, _, ⟨rfl, rfl⟩, h1, h3, h2, h4⟩
      exact ⟨⟨h1, h2⟩, h3, h4⟩

theorem isDigits_unique {radix : Nat} {s : Bytes} {ds ds' : List Nat}
    (h : IsDigits radix s ds) (h' : IsDigits radix s ds') : ds = ds' :=
  (List.map_inj_right fun _ _ => Option.some.inj).mp (h.1.symm.trans h'.1)

theorem digitsVal_cons (radix b : Nat) (s : Bytes) (acc : Nat) :
    digitsVal radix (b :: s) acc =
      (digitVal radix b).bind fun d => digitsVal radix s (acc * radix + d) := by
  show (match digitVal radix b with | some d => _ | none => none) = _
  cases digitVal radix b <;> rfl

theorem digitsVal_append (radix : Nat) : ∀ (xs ys : Bytes) (acc : Nat),
    digitsVal radix (xs ++ ys) acc = (digitsVal radix xs acc).bind (digitsVal radix ys)
  | [], _, _ => rfl
  | b :: xs, ys, acc => by
    simp only [List.cons_append, digitsVal_cons, Option.bind_assoc, digitsVal_append radix xs]

theorem digitsVal_eq_some {radix : Nat} : ∀ (s : Bytes) (acc m : Nat),
    digitsVal radix s acc = some m ↔
      ∃ ds, IsDigits radix s ds ∧ m = ds.foldl (fun a d => a * radix + d) acc
  | [], acc, m => by
    simp only [digitsVal, Option.some.injEq, isDigits_nil_iff, exists_eq_left, List.foldl_nil]
    exact eq_comm
  | b :: s, acc, m => by
    rw [digitsVal_cons, Option.bind_eq_some_iff]
    constructor
    · rintro ⟨d, hb, h⟩
      obtain ⟨hc, hlt⟩ := digitVal_eq_some.mp hb
      obtain ⟨ds', hd, rfl⟩ := (digitsVal_eq_some s _ _).mp h
      exact ⟨d :: ds', isDigits_cons_iff.mpr ⟨d, ds', rfl, hc, hlt, hd⟩, rfl⟩
    · rintro ⟨ds, hd, rfl⟩
      obtain ⟨d, ds', rfl, hc, hlt, hd'⟩ := isDigits_cons_iff.mp hd
      exact ⟨d, digitVal_eq_some.mpr ⟨hc, hlt⟩, (digitsVal_eq_some s _ _).mpr ⟨ds', hd', rfl⟩⟩

theorem digitsVal_zero_eq_some {radix : Nat} {s : Bytes} {m : Nat} :
    digitsVal radix s 0 = some m ↔ ∃ ds, IsDigits radix s ds ∧ m = digitsValue radix ds :=
  digitsVal_eq_some s 0 m

theorem isDigits_head_ne_sign {radix b : Nat} {s : Bytes} {ds : List Nat}
    (h : IsDigits radix (b :: s) ds) : b ≠ 43 ∧ b ≠ 45 := by
  obtain ⟨d, ds', -, h1, -⟩ := isDigits_cons_iff.mp h
  constructor <;> rintro rfl
  · exact nomatch (show none = some d from h1)
  · exact nomatch (show none = some d from h1)

theorem isNumeral_iff {signed : Bool} {radix : Nat} {s : Bytes} {v : Int} :
    IsNumeral signed radix s v ↔
      ∃ body ds, body ≠ [] ∧ IsDigits radix body ds ∧
        ((s = body ∧ v = digitsValue radix ds) ∨
         (s = 43 :: body ∧ v = digitsValue radix ds) ∨
         (s = 45 :: body ∧ signed = true ∧ v = -(digitsValue radix ds : Int))) := by
  constructor
  · intro h
    cases h with
    | unsignedDigits s ds hne hd => exact ⟨s, ds, hne, hd, Or.inl ⟨rfl, rfl⟩⟩
    | plus s ds hne hd => exact ⟨s, ds, hne, hd, Or.inr (Or.inl ⟨rfl, rfl⟩)⟩
    | minus s ds hs hne hd => exact ⟨s, ds, hne, hd, Or.inr (Or.inr ⟨rfl, hs, rfl⟩)⟩
  · rintro ⟨body, ds, hne, hd, (⟨rfl, rfl⟩ | ⟨rfl, rfl⟩ | ⟨rfl, hs, rfl⟩)⟩
    · exact .unsignedDigits _ _ hne hd
    · exact .plus _ _ hne hd
    · exact .minus _ _ hs hne hd

/-- The sign split that `fromStrRadix` does inside its `match`, as a function. -/
def signSplit (signed : Bool) (b : Nat) (rest : Bytes) : Bool × Bytes :=
  if b == 43 then (false, rest)
  else if b == 45 && signed then (true, rest)
  else (false, b :: rest)

theorem signSplit_other {signed : Bool} {b : Nat} (rest : Bytes) (h43 : b ≠ 43)
    (h45 : ¬ (b = 45 ∧ signed = true)) : signSplit signed b rest = (false, b :: rest) := by
  unfold signSplit
  rw [if_neg (by simpa using h43), if_neg (by simpa using h45)]

theorem signSplit_cases (signed : Bool) (b : Nat) (rest : Bytes) :
    (b = 43 ∧ signSplit signed b rest = (false, rest)) ∨
    (b = 45 ∧ signed = true ∧ signSplit signed b rest = (true, rest)) ∨
    signSplit signed b rest = (false, b :: rest) := by
  by_cases h43 : b = 43
  · subst h43
    exact .inl ⟨rfl, rfl⟩
  by_cases h45 : b = 45 ∧ signed = true
  · obtain ⟨rfl, rfl⟩ := h45
    exact .inr (.inl ⟨rfl, rfl, rfl⟩)
  exact .inr (.inr (signSplit_other rest h43 h45))

theorem fromStrRadix_cons (signed : Bool) (bits radix b : Nat) (rest : Bytes)
    (h : ¬ (rest = [] ∧ (b = 43 ∨ b = 45))) :
    fromStrRadix signed bits radix (b :: rest) =
      match digitsVal radix (signSplit signed b rest).2 0 with
      | none => none
      | some m =>
        let v : Int := if (signSplit signed b rest).1 then -(m : Int) else (m : Int)
        if intMin signed bits ≤ v ∧ v ≤ intMax signed bits then some v else none := by
  unfold fromStrRadix signSplit
  split
  next heq => cases heq
  next heq =>
    cases heq
    exact absurd ⟨rfl, .inl rfl⟩ h
  next heq =>
    cases heq
    exact absurd ⟨rfl, .inr rfl⟩ h
  next heq =>
    cases heq
    rfl

theorem fromStrRadix_lone_sign (signed : Bool) (bits radix b : Nat) (h : b = 43 ∨ b = 45) :
    fromStrRadix signed bits radix [b] = none := by
  rcases h with rfl | rfl <;> rfl

theorem not_isNumeral_nil {signed : Bool} {radix : Nat} {v : Int} :
    ¬ IsNumeral signed radix [] v := by
  intro h
  cases h with
  | unsignedDigits _ _ hne _ => exact hne rfl

theorem isNumeral_cons_iff {signed : Bool} {radix b : Nat} {rest : Bytes} {v : Int} :
    IsNumeral signed radix (b :: rest) v ↔ ¬ (rest = [] ∧ (b = 43 ∨ b = 45)) ∧
      ∃ m, digitsVal radix (signSplit signed b rest).2 0 = some m ∧
        v = if (signSplit signed b rest).1 then -(m : Int) else (m : Int) := by
  constructor
  · intro h
    cases h with
    | unsignedDigits _ ds hne hd =>
      obtain ⟨h43, h45⟩ := isDigits_head_ne_sign hd
      rw [signSplit_other rest h43 fun h => h45 h.1]
      exact ⟨fun hh => hh.2.elim h43 h45, _, digitsVal_zero_eq_some.mpr ⟨ds, hd, rfl⟩, rfl⟩
    | plus _ ds hne hd =>
      exact ⟨fun hh => hne hh.1, _, digitsVal_zero_eq_some.mpr ⟨ds, hd, rfl⟩, rfl⟩
    | minus _ ds hs hne hd =>
      subst hs
      exact ⟨fun hh => hne hh.1, _, digitsVal_zero_eq_some.mpr ⟨ds, hd, rfl⟩, rfl⟩
  · rintro ⟨hne, m, h, rfl⟩
    obtain ⟨ds, hd, rfl⟩ := digitsVal_zero_eq_some.mp h
    rcases signSplit_cases signed b rest with ⟨rfl, hs⟩ | ⟨rfl, rfl, hs⟩ | hs
    · rw [hs] at hd ⊢
      exact .plus rest ds (fun h0 => hne ⟨h0, .inl rfl⟩) hd
    · rw [hs] at hd ⊢
      exact .minus rest ds rfl (fun h0 => hne ⟨h0, .inr rfl⟩) hd
    · rw [hs] at hd ⊢
      exact .unsignedDigits (b :: rest) ds (List.cons_ne_nil _ _) hd

theorem fromStrRadix_eq_some_iff (signed : Bool) (bits radix : Nat) (s : Bytes) (v : Int) :
    fromStrRadix signed bits radix s = some v ↔
      IsNumeral signed radix s v ∧ intMin signed bits ≤ v ∧ v ≤ intMax signed bits := by
  cases s with
  | nil => exact ⟨fun h => (nomatch h), fun h => (not_isNumeral_nil h.1).elim⟩
  | cons b rest =>
    rw [isNumeral_cons_iff]
    by_cases hl : rest = [] ∧ (b = 43 ∨ b = 45)
    · rw [hl.1, fromStrRadix_lone_sign _ _ _ _ hl.2]
      exact ⟨fun h => (nomatch h), fun h => (h.1.1 ⟨rfl, hl.2⟩).elim⟩
    · rw [fromStrRadix_cons _ _ _ _ _ hl]
      cases digitsVal radix (signSplit signed b rest).2 0 with
      | none => exact ⟨fun h => (nomatch h), fun ⟨⟨_, _, hm, _⟩, _⟩ => (nomatch hm)⟩
      | some m =>
        show (if _ then some _ else none) = some v ↔ _
        rw [Option.ite_none_right_eq_some]
        constructor
        · rintro ⟨hr, h⟩
          cases h
          exact ⟨⟨hl, m, rfl, rfl⟩, hr⟩
        · rintro ⟨⟨-, m', hm, rfl⟩, hr⟩
          cases hm
          exact ⟨hr, rfl⟩

/-- For `#H…`, `#B…`, `#Q…` the text `s` is what follows the two-byte prefix. -/
inductive NumKind : Value → Nat → Bytes → Prop where
  | dec (s : Bytes) : NumKind (.dec s) 10 s
  | hex (s : Bytes) : NumKind (.hex s) 16 s
  | bin (s : Bytes) : NumKind (.bin s) 2 s
  | oct (s : Bytes) : NumKind (.oct s) 8 s

def NonNumeric (v : Value) : Prop := ∃ s, v = .str s ∨ v = .chars s ∨ v = .arb s

theorem convertInt_numKind {v : Value} {radix : Nat} {s : Bytes} (hk : NumKind v radix s)
    (ty : Ty) (sg : Bool) (bits : Nat) :
    convertInt ty sg bits v =
      match fromStrRadix sg bits radix s with
      | some n => .ok (.int ty n)
      | none => .error (.std .NumericDataError) := by
  cases hk <;> rfl

theorem NumKind.unique {v : Value} {radix radix' : Nat} {s s' : Bytes} (h : NumKind v radix s)
    (h' : NumKind v radix' s') : radix' = radix ∧ s' = s := by
  cases h <;> cases h'
  all_goals exact ⟨rfl, rfl⟩

theorem convertInt_nonNumeric {v : Value} (hv : NonNumeric v) (ty : Ty) (sg : Bool) (bits : Nat) :
    convertInt ty sg bits v = .error (.std .DataTypeError) := by
  obtain ⟨s, rfl | rfl | rfl⟩ := hv <;> rfl

end C03
end Scpi
