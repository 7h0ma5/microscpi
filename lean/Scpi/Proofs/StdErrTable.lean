/-
The table of the 59 standard errors (`StdErr.all`, Basic.lean): it is complete and no two
entries share a number.  Facts about one finite table, checked by evaluation.
-/
import Scpi.Basic

namespace Scpi

theorem stdErr_mem_all (e : StdErr) : e ∈ StdErr.all := by cases e <;> decide +kernel

theorem stdErr_numbers_nodup : (StdErr.all.map StdErr.number).Nodup := by decide +kernel

end Scpi
