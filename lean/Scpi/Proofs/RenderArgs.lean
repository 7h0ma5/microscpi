/-
The parameter list: `arguments` on the rendering of a list of literals, with any
white space around the commas, delivers the values of the literals in order — and refuses
the literal that would be number `MAX_ARGS + 1`.
-/
import Scpi.Proofs.RenderArg
import Scpi.Proofs.Fuel

namespace Scpi

theorem ends_ext_of_delim (l : Lit) {d : Nat} (r : Bytes) (h : isDelim d = true) :
    Ends l.ext (d :: r) := by
  have hd := isDelim_le h
  refine ends_cons ?_
  cases l with
  | chars s => exact isDelim_not_mnemonicTail h
  | dec x =>
    simp only [Lit.ext, Bool.or_eq_false_iff, beq_eq_false_iff_ne]
    exact ⟨⟨⟨eq_false_of_iff (isDigit_iff d) (by omega), by omega⟩, by omega⟩, by omega⟩
  | hex u ds => exact eq_false_of_iff (isHexDigit_iff d) (by omega)
  | bin u ds => exact eq_false_of_iff (isBinDigit_iff d) (by omega)
  | oct u ds => exact eq_false_of_iff (isOctDigit_iff d) (by omega)
  | str q p => rfl
  | block nd p => rfl

def DelimHead (rest : Bytes) : Prop := ∀ d r, rest = d :: r → isDelim d = true

theorem DelimHead.ends (l : Lit) {rest : Bytes} (h : DelimHead rest) : Ends l.ext rest := by
  cases rest with
  | nil => exact ends_nil _
  | cons d r => exact ends_ext_of_delim l r (h d r rfl)

theorem delimHead_ws_append {w : Bytes} {d : Nat} {r : Bytes} (hw : allWs w = true)
    (hd : isDelim d = true) : DelimHead (w ++ d :: r) := by
  intro b t e
  cases w with
  | nil =>
    cases e
    exact hd
  | cons b' t' =>
    simp only [allWs, List.all_cons, Bool.and_eq_true] at hw
    cases e
    exact isDelim_of_isWs hw.1

theorem argumentSeparator_render {a b X : Bytes} (ha : allWs a = true) (hb : allWs b = true)
    (hX : Ends isWs X) : argumentSeparator (a ++ 44 :: (b ++ X)) = .ok X () :=
  separator_render (by decide) ha hb hX

theorem renderMore_cons (l : Lit) (ls : List Lit) (cs : List (Bytes × Bytes)) :
    renderMore (l :: ls) cs =
      (cs.head?.getD ([], [])).1 ++ 44 :: ((cs.head?.getD ([], [])).2 ++
        (l.render ++ renderMore ls cs.tail)) := rfl

theorem commas_head_wf {cs : List (Bytes × Bytes)}
    (h : cs.all (fun p => allWs p.1 && allWs p.2) = true) :
    allWs (cs.head?.getD ([], [])).1 = true ∧ allWs (cs.head?.getD ([], [])).2 = true ∧
      cs.tail.all (fun p => allWs p.1 && allWs p.2) = true := by
  cases cs with
  | nil => exact ⟨rfl, rfl, rfl⟩
  | cons p t =>
    simp only [List.all_cons, Bool.and_eq_true] at h
    exact ⟨h.1.1, h.1.2, h.2⟩

theorem delimHead_renderMore {ls : List Lit} {cs : List (Bytes × Bytes)} {tl : Bytes}
    (hcs : cs.all (fun p => allWs p.1 && allWs p.2) = true) (htl : DelimHead tl) :
    DelimHead (renderMore ls cs ++ tl) := by
  cases ls with
  | nil => exact htl
  | cons l ls =>
    obtain ⟨h1, _, _⟩ := commas_head_wf hcs
    rw [renderMore_cons, List.append_assoc, List.cons_append]
    exact delimHead_ws_append h1 (by decide)

theorem argsRun_renderMore_cons {l : Lit} {ls : List Lit} {cs : List (Bytes × Bytes)}
    (acc : List Value) {tl : Bytes} (hl : l.wf = true)
    (hcs : cs.all (fun p => allWs p.1 && allWs p.2) = true) (htl : DelimHead tl) :
    argsRun acc (renderMore (l :: ls) cs ++ tl) =
      if acc.length < maxArgs then argsRun (acc ++ [l.value]) (renderMore ls cs.tail ++ tl)
      else (ofErr .UnexpectedNumberOfParameters, acc) := by
  obtain ⟨h1, h2, h3⟩ := commas_head_wf hcs
  rw [argsRun_eq, renderMore_cons]
  simp only [List.append_assoc, List.cons_append]
  rw [argumentSeparator_render h1 h2 (ends_ws_lit hl _)]
  exact argStep_ok (argument_render hl ((delimHead_renderMore h3 htl).ends l))

theorem argsRun_renderMore {tl : Bytes} (htl : DelimHead tl) (ls : List Lit) :
    ∀ (cs : List (Bytes × Bytes)) (acc : List Value), ls.all Lit.wf = true →
    cs.all (fun p => allWs p.1 && allWs p.2) = true → acc.length ≤ maxArgs →
    argsRun acc (renderMore ls cs ++ tl) =
      if acc.length + ls.length ≤ maxArgs then argsRun (acc ++ ls.map Lit.value) tl
      else (.soft (some (.std .UnexpectedNumberOfParameters)),
        (acc ++ ls.map Lit.value).take maxArgs) := by
  induction ls with
  | nil =>
    intro cs acc _ _ hle
    rw [List.length_nil, Nat.add_zero, if_pos hle, List.map_nil, List.append_nil]
    rfl
  | cons l ls ih =>
    intro cs acc hwf hcs hle
    simp only [List.all_cons, Bool.and_eq_true] at hwf
    rw [argsRun_renderMore_cons acc hwf.1 hcs htl, List.length_cons]
    by_cases hlt : acc.length < maxArgs
    · have hlen : (acc ++ [l.value]).length = acc.length + 1 := by
        rw [List.length_append, List.length_singleton]
      rw [if_pos hlt, ih cs.tail (acc ++ [l.value]) hwf.2 (commas_head_wf hcs).2.2 (by omega),
        hlen, List.append_assoc, List.map_cons, Nat.add_right_comm]
      rfl
    · rw [if_neg hlt, if_neg (by omega), List.take_left' (by omega)]
      rfl

theorem arguments_render {l : Lit} {ls : List Lit} {cs : List (Bytes × Bytes)} {w : Bytes}
    {d : Nat} (r : Bytes) (hwf : (l :: ls).all Lit.wf = true)
    (hcs : cs.all (fun p => allWs p.1 && allWs p.2) = true) (hlen : (l :: ls).length ≤ maxArgs)
    (hw : allWs w = true) (hd : d = 59 ∨ d = 10) :
    arguments (renderArgs (l :: ls) cs ++ (w ++ d :: r)) =
      (.ok (w ++ d :: r) (), (l :: ls).map Lit.value) := by
  have hdw : isWs d = false := by rcases hd with rfl | rfl <;> rfl
  have hdd : isDelim d = true := by rcases hd with rfl | rfl <;> rfl
  have htl : DelimHead (w ++ d :: r) := delimHead_ws_append hw hdd
  simp only [List.all_cons, Bool.and_eq_true] at hwf
  rw [arguments_eq, renderArgs, List.append_assoc,
    argStep_ok (argument_render hwf.1 ((delimHead_renderMore hcs htl).ends l))]
  rw [argsRun_renderMore htl ls cs [l.value] hwf.2 hcs (show 1 ≤ maxArgs by decide),
    if_pos (by simp only [List.length_cons, List.length_nil] at hlen ⊢; omega), argsRun_eq,
    show argumentSeparator (w ++ d :: r) = .soft _ from separator_soft r hw hdw (by omega)]
  rfl

theorem arguments_overflow {l : Lit} {ls : List Lit} {cs : List (Bytes × Bytes)} {tl : Bytes}
    (hwf : (l :: ls).all Lit.wf = true) (hcs : cs.all (fun p => allWs p.1 && allWs p.2) = true)
    (hlen : maxArgs < (l :: ls).length) (htl : DelimHead tl) :
    arguments (renderArgs (l :: ls) cs ++ tl) =
      (.soft (some (.std .UnexpectedNumberOfParameters)),
        ((l :: ls).take maxArgs).map Lit.value) := by
  simp only [List.all_cons, Bool.and_eq_true] at hwf
  have hnext : DelimHead (renderMore ls cs ++ tl) := delimHead_renderMore hcs htl
  rw [renderArgs, List.append_assoc, arguments_eq,
    argStep_ok (argument_render hwf.1 (hnext.ends l)),
    argsRun_renderMore htl ls cs [l.value] hwf.2 hcs (show 1 ≤ maxArgs by decide),
    if_neg (by rw [List.length_cons] at hlen; rw [List.length_singleton]; omega), List.map_take]
  rfl

end Scpi
