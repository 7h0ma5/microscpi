/-
What the macro inserts and what comes of it: `Command.paths` enumerates exactly the spellings
`Expands` allows; `insertPaths` and `insertAll` are specified through the exact-key observation
`lookupId`: when they succeed, what the resulting trie contains, and which declaration is reported
on failure.
-/
import Scpi.Spec.Spelling
import Scpi.Proofs.MacroTrie

namespace Scpi

theorem mem_extendPaths (acc : List (List Bytes)) (p : Part) (x : List Bytes) :
    x ∈ extendPaths acc p ↔
      ∃ a ∈ acc, x = a ++ [p.long] ∨ x = a ++ [p.short] ∨ (p.optional = true ∧ x = a) := by
  simp only [extendPaths, List.mem_flatMap, List.mem_append, List.mem_singleton,
    List.mem_ite_nil_right, or_assoc]
  refine exists_congr fun a => and_congr_right fun _ => ?_
  -- the short form is listed only when it differs from the long form
  by_cases hs : p.short = p.long <;> simp [hs]

theorem mem_foldl_extendPaths (ps : List Part) (acc : List (List Bytes)) (x : List Bytes) :
    x ∈ ps.foldl extendPaths acc ↔ ∃ a ∈ acc, ∃ e, Expands ps e ∧ x = a ++ e := by
  induction ps generalizing acc with
  | nil => simp [expands_nil_iff]
  | cons p ps ih =>
    simp only [List.foldl_cons, ih, mem_extendPaths, expands_cons_iff]
    constructor
    · rintro ⟨b, ⟨a, ha, hb⟩, e, he, rfl⟩
      refine ⟨a, ha, ?_⟩
      rcases hb with rfl | rfl | ⟨ho, rfl⟩
      · exact ⟨p.long :: e, .inl ⟨e, rfl, he⟩, by simp⟩
      · exact ⟨p.short :: e, .inr (.inl ⟨e, rfl, he⟩), by simp⟩
      · exact ⟨e, .inr (.inr ⟨ho, he⟩), rfl⟩
    · rintro ⟨a, ha, e, (⟨t, rfl, he⟩ | ⟨t, rfl, he⟩ | ⟨ho, he⟩), rfl⟩
      · exact ⟨a ++ [p.long], ⟨a, ha, .inl rfl⟩, t, he, by simp⟩
      · exact ⟨a ++ [p.short], ⟨a, ha, .inr (.inl rfl)⟩, t, he, by simp⟩
      · exact ⟨a, ⟨a, ha, .inr (.inr ⟨ho, rfl⟩)⟩, e, he, rfl⟩

theorem mem_paths_iff (c : Command) (p : List Bytes) : p ∈ c.paths ↔ Expands c.parts p := by
  simp [Command.paths, mem_foldl_extendPaths]

theorem insertAt_ok_iff (n : Node) (path : List Bytes) (id : Nat) (q : Bool) :
    (∃ n', insertAt n path id q = .ok n') ↔ ∀ j, lookupId q n path = some j → j = id := by
  rcases insSpec n path id q with ⟨j, hne, hj, herr⟩ | ⟨n', hcomp, hok, _⟩
  · constructor
    · rintro ⟨n', h⟩
      rw [herr] at h
      cases h
    · intro h
      exact absurd (h j hj) hne
  · exact ⟨fun _ => hcomp, fun _ => ⟨n', hok⟩⟩

theorem insertAt_upd {n n' : Node} {path : List Bytes} {id : Nat} {q : Bool}
    (h : insertAt n path id q = .ok n') : Upd n n' path id q := by
  rcases insSpec n path id q with ⟨j, _, _, herr⟩ | ⟨n'', _, hok, hupd⟩
  · rw [herr] at h
    cases h
  · rw [hok] at h
    cases h
    exact hupd

theorem insertAt_error {n : Node} {path : List Bytes} {id : Nat} {q : Bool} {e : MacroErr}
    (h : insertAt n path id q = .error e) :
    e = errKind q ∧ ∃ j, j ≠ id ∧ lookupId q n path = some j := by
  rcases insSpec n path id q with ⟨j, hne, hj, herr⟩ | ⟨n'', _, hok, _⟩
  · rw [herr] at h
    cases h
    exact ⟨rfl, j, hne, hj⟩
  · rw [hok] at h
    cases h

def UpdAll (n n' : Node) (ps : List (List Bytes)) (id : Nat) (q : Bool) : Prop :=
  ∀ q' p', lookupId q' n' p' = if p' ∈ ps ∧ q' = q then some id else lookupId q' n p'

theorem insertPaths_spec (n : Node) (ps : List (List Bytes)) (id : Nat) (q : Bool) :
    ((∃ p ∈ ps, ∃ j, j ≠ id ∧ lookupId q n p = some j) ∧
      insertPaths n ps id q = .error (errKind q)) ∨
    (∃ n', (∀ p ∈ ps, ∀ j, lookupId q n p = some j → j = id) ∧
      insertPaths n ps id q = .ok n' ∧ UpdAll n n' ps id q) := by
  induction ps generalizing n with
  | nil =>
    refine .inr ⟨n, by simp, rfl, ?_⟩
    intro q' p'
    simp
  | cons p ps ih =>
    rw [insertPaths]
    rcases insSpec n p id q with ⟨j, hne, hj, herr⟩ | ⟨n1, hcomp, hok, hupd⟩
    · exact .inl ⟨⟨p, List.mem_cons_self, j, hne, hj⟩, by rw [herr]⟩
    · rw [hok]
      rcases ih n1 with ⟨⟨p', hp', j, hne, hj⟩, herr⟩ | ⟨n', hcomp', hok', hupd'⟩
      · refine .inl ⟨⟨p', List.mem_cons_of_mem _ hp', j, hne, ?_⟩, herr⟩
        rw [hupd] at hj
        split at hj
        · cases hj
          exact absurd rfl hne
        · exact hj
      · refine .inr ⟨n', ?_, hok', ?_⟩
        · intro p' hp' j hj
          by_cases hpp : p' = p
          · subst hpp
            exact hcomp j hj
          · refine hcomp' p' ((List.mem_cons.1 hp').resolve_left hpp) j ?_
            rw [hupd, if_neg fun h => hpp h.1, hj]
        · intro q' p'
          rw [hupd', hupd]
          simp only [List.mem_cons, or_and_right]
          by_cases h1 : p' ∈ ps ∧ q' = q <;> by_cases h2 : p' = p ∧ q' = q <;> simp [h1, h2]

theorem insertPaths_error_iff (n : Node) (ps : List (List Bytes)) (id : Nat) (q : Bool)
    (e : MacroErr) :
    insertPaths n ps id q = .error e ↔
      e = errKind q ∧ ∃ p ∈ ps, ∃ j, j ≠ id ∧ lookupId q n p = some j := by
  rcases insertPaths_spec n ps id q with ⟨hex, herr⟩ | ⟨n', hcomp, hok, _⟩
  · rw [herr]
    constructor
    · intro h
      cases h
      exact ⟨rfl, hex⟩
    · intro h
      rw [h.1]
  · rw [hok]
    exact ⟨nofun, fun ⟨_, p, hp, j, hne, hj⟩ => absurd (hcomp p hp j hj) hne⟩

def Below (n : Node) (b : Nat) : Prop := ∀ q p i, lookupId q n p = some i → i < b

theorem below_emptyNode (b : Nat) : Below emptyNode b := by
  intro q p i h
  rw [emptyNode, lookupId_empty] at h
  cases h

theorem insertPaths_fresh {n n1 : Node} {ps : List (List Bytes)} {id : Nat} {q : Bool}
    (hb : Below n id) (h : insertPaths n ps id q = .ok n1) :
    (∀ p ∈ ps, lookupId q n p = none) ∧ Below n1 (id + 1) ∧ UpdAll n n1 ps id q := by
  rcases insertPaths_spec n ps id q with ⟨_, herr⟩ | ⟨n', hcomp, hok, hupd⟩
  · rw [herr] at h
    cases h
  · rw [hok] at h
    cases h
    refine ⟨fun p hp => ?_, fun q' p' i' hi' => ?_, hupd⟩
    · cases hl : lookupId q n p with
      | none => rfl
      | some j => exact absurd (hcomp p hp j hl) (Nat.ne_of_lt (hb _ _ _ hl))
    · rw [hupd] at hi'
      split at hi'
      · cases hi'
        exact Nat.lt_succ_self _
      · exact Nat.lt_succ_of_lt (hb q' p' i' hi')

theorem insertAll_nil (n : Node) (id : Nat) : insertAll n [] id = .ok n := rfl

theorem insertAll_cons (n : Node) (c : Command) (cs : List Command) (id : Nat) :
    insertAll n (c :: cs) id =
      match insertPaths n c.paths id c.query with
      | .ok n' => insertAll n' cs (id + 1)
      | .error e => .error (e, id, n) := rfl

theorem insertAll_append (n : Node) (pre rest : List Command) (start : Nat) :
    insertAll n (pre ++ rest) start =
      match insertAll n pre start with
      | .ok t => insertAll t rest (start + pre.length)
      | .error x => .error x := by
  induction pre generalizing n start with
  | nil => simp [insertAll_nil]
  | cons c cs ih =>
    rw [List.cons_append, insertAll_cons, insertAll_cons]
    cases insertPaths n c.paths start c.query with
    | error e => rfl
    | ok n1 =>
      simp only [ih, List.length_cons]
      rw [show start + 1 + cs.length = start + (cs.length + 1) by omega]

def Owns (cmds : List Command) (start : Nat) (q : Bool) (p : List Bytes) (i : Nat) : Prop :=
  ∃ c, (c, i) ∈ cmds.zipIdx start ∧ c.query = q ∧ p ∈ c.paths

theorem owns_iff (cmds : List Command) (start : Nat) (q : Bool) (p : List Bytes) (i : Nat) :
    Owns cmds start q p i ↔
      start ≤ i ∧ ∃ c, cmds[i - start]? = some c ∧ c.query = q ∧ p ∈ c.paths := by
  simp only [Owns, List.mk_mem_zipIdx_iff_le_and_getElem?_sub, and_assoc, exists_and_left]

theorem owns_cons (c : Command) (cs : List Command) (start : Nat) (q : Bool) (p : List Bytes)
    (i : Nat) :
    Owns (c :: cs) start q p i ↔
      (i = start ∧ c.query = q ∧ p ∈ c.paths) ∨ Owns cs (start + 1) q p i := by
  simp only [Owns, List.zipIdx_cons, List.mem_cons, Prod.mk.injEq, or_and_right, exists_or]
  refine or_congr_left ⟨?_, ?_⟩
  · rintro ⟨_, ⟨rfl, rfl⟩, h⟩
    exact ⟨rfl, h⟩
  · rintro ⟨rfl, h⟩
    exact ⟨c, ⟨rfl, rfl⟩, h⟩

theorem insertAll_lookup {n n' : Node} {cmds : List Command} {start : Nat} (hb : Below n start)
    (h : insertAll n cmds start = .ok n') (q : Bool) (p : List Bytes) (i : Nat) :
    lookupId q n' p = some i ↔ lookupId q n p = some i ∨ Owns cmds start q p i := by
  induction cmds generalizing n start with
  | nil =>
    rw [insertAll_nil] at h
    cases h
    exact (or_iff_left fun ⟨_, hc, _⟩ => nomatch hc).symm
  | cons c cs ih =>
    rw [insertAll_cons] at h
    split at h
    · next n1 h1 =>
      obtain ⟨hfresh, hb1, hupd⟩ := insertPaths_fresh hb h1
      rw [ih hb1 h, owns_cons, hupd, ← or_assoc]
      refine or_congr_left ?_
      by_cases hm : p ∈ c.paths ∧ q = c.query
      · obtain ⟨hp, rfl⟩ := hm
        simp [hp, hfresh p hp, eq_comm]
      · rw [if_neg hm]
        exact (or_iff_left fun ⟨_, hq, hp⟩ => hm ⟨hp, hq.symm⟩).symm
    · cases h

theorem insertAll_below {n n' : Node} {cmds : List Command} {start : Nat} (hb : Below n start)
    (h : insertAll n cmds start = .ok n') : Below n' (start + cmds.length) := by
  intro q p i hi
  rcases (insertAll_lookup hb h q p i).1 hi with h1 | ⟨c, hc, _⟩
  · have := hb q p i h1
    omega
  · exact (List.mem_zipIdx hc).2.1

def PathsDisjoint (c c' : Command) : Prop := c.query = c'.query → ∀ p ∈ c.paths, p ∉ c'.paths

theorem insertAll_ok_iff_of_below (n : Node) (cmds : List Command) (start : Nat)
    (hb : Below n start) :
    (∃ n', insertAll n cmds start = .ok n') ↔
      (∀ c ∈ cmds, ∀ p ∈ c.paths, lookupId c.query n p = none) ∧
        cmds.Pairwise PathsDisjoint := by
  induction cmds generalizing n start with
  | nil => simp [insertAll_nil]
  | cons c cs ih =>
    rw [insertAll_cons]
    cases h1 : insertPaths n c.paths start c.query with
    | error e =>
      simp only [reduceCtorEq, exists_false, false_iff]
      rintro ⟨hfresh, _⟩
      obtain ⟨_, p, hp, j, _, hj⟩ := (insertPaths_error_iff ..).1 h1
      rw [hfresh c List.mem_cons_self p hp] at hj
      cases hj
    | ok n1 =>
      obtain ⟨hc_fresh, hb1, hupd⟩ := insertPaths_fresh hb h1
      have key (c' : Command) (p : List Bytes) : lookupId c'.query n1 p = none ↔
          lookupId c'.query n p = none ∧ ¬ (p ∈ c.paths ∧ c'.query = c.query) := by
        rw [hupd]
        split <;> simp [*]
      simp only [ih n1 (start + 1) hb1, key, List.pairwise_cons, List.mem_cons, forall_eq_or_imp]
      constructor
      · rintro ⟨hfresh, hpw⟩
        exact ⟨⟨hc_fresh, fun c' hc' p hp => (hfresh c' hc' p hp).1⟩,
          fun c' hc' hq p hp hp' => (hfresh c' hc' p hp').2 ⟨hp, hq.symm⟩, hpw⟩
      · rintro ⟨⟨_, hfresh⟩, hdis, hpw⟩
        exact ⟨fun c' hc' p hp =>
          ⟨hfresh c' hc' p hp, fun ⟨hpc, hq⟩ => hdis c' hc' hq.symm p hpc hp⟩, hpw⟩

theorem insertAll_error_split {n t : Node} {cmds : List Command} {start k : Nat} {e : MacroErr}
    (h : insertAll n cmds start = .error (e, k, t)) :
    ∃ pre c post, cmds = pre ++ c :: post ∧ k = start + pre.length ∧
      insertAll n pre start = .ok t ∧ insertPaths t c.paths k c.query = .error e := by
  induction cmds generalizing n start with
  | nil =>
    rw [insertAll_nil] at h
    cases h
  | cons c cs ih =>
    rw [insertAll_cons] at h
    split at h
    · next n1 h1 =>
      obtain ⟨pre, c', post, hcs, hk, hpre, herr⟩ := ih h
      refine ⟨c :: pre, c', post, congrArg (c :: ·) hcs, ?_, ?_, herr⟩
      · rw [hk, List.length_cons]
        omega
      · rw [insertAll_cons, h1]
        exact hpre
    · next e' h1 =>
      cases h
      exact ⟨[], c, cs, rfl, rfl, rfl, h1⟩

/-- The reported id is written `start + k` (no id below `start` is ever reported), so that `k` is
the position of the reported declaration in `cmds`. -/
theorem insertAll_error_iff (n : Node) (cmds : List Command) (start k : Nat) (e : MacroErr)
    (t : Node) :
    insertAll n cmds start = .error (e, start + k, t) ↔
      ∃ c, cmds[k]? = some c ∧ insertAll n (cmds.take k) start = .ok t ∧
        insertPaths t c.paths (start + k) c.query = .error e := by
  constructor
  · intro h
    obtain ⟨pre, c, post, rfl, hk, hpre, herr⟩ := insertAll_error_split h
    obtain rfl : k = pre.length := by omega
    exact ⟨c, by simp, by simpa using hpre, herr⟩
  · rintro ⟨c, hc, hpre, herr⟩
    obtain ⟨hk, rfl⟩ := List.getElem?_eq_some_iff.1 hc
    have hlen : (cmds.take k).length = k := by
      rw [List.length_take]
      omega
    rw [← List.take_append_drop k cmds, insertAll_append, hpre, hlen, ← List.getElem_cons_drop hk]
    show insertAll t (cmds[k] :: List.drop (k + 1) cmds) (start + k) = _
    rw [insertAll_cons, herr]

end Scpi
