/-
Rendered messages as complete messages of the stream machine.

The rendering of a non-empty well-formed message without newline in its payloads that is at most
`n` bytes long (`Sendable`) is a complete message (`IsMessage`) for an `n`-byte command buffer, and
`run` on it is `specExec` on its units (`Scpi.Msg.run_render_run`): so `runMessages` on the
renderings is `specMessages` on the unit lists, which mentions neither bytes nor the parser.
-/
import Scpi.Props.RunRender
import Scpi.Props.C07
import Scpi.Proofs.MsgCor

namespace Scpi
namespace Combo
open Msg

/-- The meaning of a sequence of messages (lists of units) for `process::<n>`: a fresh `n`-byte
response writer per message, every non-empty response written and flushed. -/
def specMessages {σ : Type} (I : Iface σ) (n : Nat) : List (List MsgUnit) → σ → List PEv → σ × List PEv
  | [], s, out => (s, out)
  | us :: rest, s, out =>
    let r := specExec I I.root us { cap := some n } s
    specMessages I n rest r.2 (out ++ (if r.1.buf = [] then [] else [PEv.w r.1.buf, PEv.f]))

/-- The hypotheses on one message of the theorems about `process`. -/
structure Sendable (n : Nat) (m : List (MsgUnit × Lex)) : Prop where
  ne : m ≠ []
  wf : wfMsg m = true
  nlFree : (units m).all unitNlFree = true
  fits : (renderMsg m).length ≤ n

variable {σ : Type} (I : Iface σ) (n : Nat)

theorem isMessage_render {m : List (MsgUnit × Lex)}
    (h : Sendable n m) : IsMessage I n (renderMsg m) := by
  obtain ⟨body, hb, hnb⟩ := renderMsg_shape h.ne h.wf h.nlFree
  refine ⟨⟨body, hb, ?_⟩, h.fits, fun w s => ?_⟩
  · exact List.forall_mem_ne'.2 (noNl_iff.1 hnb)
  · rw [run_render_run I m w s h.ne h.wf (dropSafe_of_nlFree I.root I.root _ h.nlFree)]

theorem isMessage_render_all {ms : List (List (MsgUnit × Lex))}
    (hm : ∀ m ∈ ms, Sendable n m) : ∀ b ∈ ms.map renderMsg, IsMessage I n b := by
  intro b hb
  obtain ⟨m, hmem, rfl⟩ := List.mem_map.1 hb
  exact isMessage_render I n (hm m hmem)

theorem runMessages_render :
    ∀ (ms : List (List (MsgUnit × Lex))) (s : σ) (out : List PEv),
    (∀ m ∈ ms, Sendable n m) →
    runMessages I n (ms.map renderMsg) s out = specMessages I n (ms.map units) s out
  | [], _, _, _ => rfl
  | m :: ms, s, out, h => by
    have hm := h m List.mem_cons_self
    simp only [List.map_cons, runMessages, specMessages]
    rw [run_render_run I m _ s hm.ne hm.wf (dropSafe_of_nlFree I.root I.root _ hm.nlFree)]
    exact runMessages_render ms _ _ fun x hx => h x (List.mem_cons_of_mem _ hx)

def SameMsgsUpToCase : List (List MsgUnit) → List (List MsgUnit) → Prop
  | [], [] => True
  | us :: a, vs :: b => SameUpToCase us vs ∧ SameMsgsUpToCase a b
  | _, _ => False

theorem specMessages_sameUpToCase :
    ∀ (a b : List (List MsgUnit)), SameMsgsUpToCase a b → ∀ (s : σ) (out : List PEv),
    specMessages I n a s out = specMessages I n b s out
  | [], [], _, _, _ => rfl
  | [], _ :: _, h, _, _ => absurd h id
  | _ :: _, [], h, _, _ => absurd h id
  | us :: a, vs :: b, h, s, out => by
    simp only [specMessages, specExec_sameUpToCase I _ _ h.1]
    exact specMessages_sameUpToCase a b h.2 _ _

theorem nlFree_of_sameUpToCase {m₁ m₂ : List (MsgUnit × Lex)} (h : SameUpToCase (units m₁) (units m₂))
    (h₁ : (units m₁).all unitNlFree = true) : (units m₂).all unitNlFree = true := by
  rw [← nlFree_sameUpToCase _ _ h]
  exact h₁

end Combo
end Scpi
