/-
A bounded response buffer that never overflows behaves like an unbounded one: as long as the
unbounded writer ends with at most `n` bytes after `pre`, every write succeeds on both, the outcomes
agree and `WSim` is kept (`runFrom_sim`).  This is what relates the stream machine (a fresh `n`-byte
response buffer at every newline) to one `run` over the whole message.
-/
import Scpi.Proofs.RunSteps

namespace Scpi

/-- `w₁`: `heapless::Vec<u8, n>`; `w₂`: unbounded, holding `pre` and then what `w₁` holds. -/
def WSim (n : Nat) (pre : Bytes) (w₁ w₂ : Writer) : Prop :=
  w₁.cap = some n ∧ w₂.cap = none ∧ w₂.buf = pre ++ w₁.buf

variable {σ : Type} (I : Iface σ) {n : Nat} {pre : Bytes} {w₁ w₂ : Writer}

namespace Writer

theorem call_sim (h : WSim n pre w₁ w₂) (c : WCall)
    (hb : (w₂.call c).1.buf.length ≤ pre.length + n) :
    ∃ w₁', w₁.call c = (w₁', (w₂.call c).2) ∧ WSim n pre w₁' (w₂.call c).1 := by
  obtain ⟨c1, c2, hbuf⟩ := h
  cases hf : c.isFail with
  | true =>
    match c, hf with
    | .fail e, _ => exact ⟨w₁, rfl, c1, c2, hbuf⟩
  | false =>
    obtain ⟨w₂', e₂⟩ := call_fits (w := w₂) hf
      ((fits_iff _ _).2 fun _ hc => nomatch c2.symm.trans hc)
    obtain ⟨k₂, b₂, _⟩ := call_ok e₂
    rw [e₂] at hb ⊢
    obtain ⟨w₁', e₁⟩ := call_fits (w := w₁) hf ((fits_iff _ _).2 fun _ hc => by
      cases c1.symm.trans hc
      rw [b₂, hbuf, List.length_append, List.length_append] at hb
      omega)
    obtain ⟨k₁, b₁, _⟩ := call_ok e₁
    exact ⟨w₁', e₁, k₁.trans c1, k₂.trans c2,
      by rw [b₂, b₁, hbuf, List.append_assoc]⟩

/-- The bound is on the writer the sequence ends with: calls only append (`extends_calls`). -/
theorem calls_sim (cs : List WCall) (h : WSim n pre w₁ w₂)
    (hb : (w₂.calls cs).1.buf.length ≤ pre.length + n) :
    ∃ w₁', w₁.calls cs = (w₁', (w₂.calls cs).2) ∧
      WSim n pre w₁' (w₂.calls cs).1 := by
  induction cs generalizing w₁ w₂ with
  | nil => exact ⟨w₁, rfl, h⟩
  | cons c cs ih =>
    unfold calls at hb ⊢
    have k := call_sim h c
    generalize w₂.call c = x₂ at hb k ⊢
    obtain ⟨w₂', (e | ⟨⟨⟩⟩)⟩ := x₂
    · obtain ⟨w₁', e₁, hs⟩ := k hb
      rw [e₁]
      exact ⟨w₁', rfl, hs⟩
    · obtain ⟨w₁', e₁, hs⟩ := k (Nat.le_trans (extends_calls cs w₂').buf_le hb)
      rw [e₁]
      exact ih hs hb

end Writer

open Writer

theorem respond_sim (h : WSim n pre w₁ w₂) (q : Bool) (resp : Resp)
    (hb : (respond q w₂ resp).1.buf.length ≤ pre.length + n) :
    ∃ w₁', respond q w₁ resp = (w₁', (respond q w₂ resp).2) ∧
      WSim n pre w₁' (respond q w₂ resp).1 := by
  simp only [respond_eq_calls] at hb ⊢
  generalize resp.calls ++ (if q then [WCall.direct [10]] else []) = cs at hb ⊢
  have k := calls_sim cs h
  generalize w₂.calls cs = x₂ at hb k ⊢
  obtain ⟨w₂', (e | ⟨⟨⟩⟩)⟩ := x₂
  · obtain ⟨w₁', e₁, hs⟩ := k hb
    rw [e₁]
    exact ⟨w₁', rfl, hs⟩
  · -- the flush leaves the buffer as it is
    obtain ⟨w₁', e₁, hs⟩ := k (by cases q <;> exact hb)
    rw [e₁]
    cases q
    · exact ⟨w₁', rfl, hs⟩
    · exact ⟨w₁'.flush, rfl, hs⟩

theorem execute_sim (h : WSim n pre w₁ w₂) (call : CommandCall) (s : σ)
    (hb : (execute I call w₂ s).2.1.buf.length ≤ pre.length + n) :
    ∃ w₁',
      execute I call w₁ s = ((execute I call w₂ s).1, w₁', (execute I call w₂ s).2.2) ∧
      WSim n pre w₁' (execute I call w₂ s).2.1 := by
  -- which case of `execute_cases` applies does not depend on the writer, and every case
  -- but the last returns the writer as it was
  revert hb
  refine execute_cases I call w₂ s
    (motive := fun r => r.2.1.buf.length ≤ pre.length + n →
      ∃ w₁', execute I call w₁ s = (r.1, w₁', r.2.2) ∧ WSim n pre w₁' r.2.1)
    ?_ ?_ ?_ ?_ ?_
  · exact fun hr _ => ⟨w₁, execute_no_slot hr w₁ s, h⟩
  · exact fun c hr hl _ => ⟨w₁, execute_arity hr hl w₁ s, h⟩
  · exact fun c e hr hl hca _ => ⟨w₁, execute_conversion hr hl hca w₁ s, h⟩
  · intro c tvs s' e hr hl hca hh _
    exact ⟨w₁, by rw [execute_called hr hl hca, hh], h⟩
  · intro c tvs s' resp hr hl hca hh hb
    obtain ⟨w₁', e, hs⟩ := respond_sim h call.query resp hb
    exact ⟨w₁', by rw [execute_called hr hl hca, hh]; exact congrArg (Prod.mk s') e, hs⟩

theorem runFrom_sim (h : Node) (x : Bytes) (s : σ) (hs : WSim n pre w₁ w₂)
    (hb : (runFrom I h x w₂ s).w.buf.length ≤ pre.length + n) :
    ∃ w₁', runFrom I h x w₁ s = { runFrom I h x w₂ s with w := w₁' } ∧
      WSim n pre w₁' (runFrom I h x w₂ s).w := by
  -- the relation both runs keep: while the unbounded writer is within the bound — writers
  -- only grow, so it was all along — the user states agree and the writers correspond
  obtain ⟨hr, hh, hR⟩ := runFrom_inv₂ I I rfl
    (fun w₂ s w₁ s' => w₂.buf.length ≤ pre.length + n → s' = s ∧ WSim n pre w₁ w₂)
    (fun call w₂ s w₁ s' hR hb => by
      obtain ⟨rfl, hs⟩ :=
        hR (Nat.le_trans ((kept_extends w₂).execute I call w₂ s (.refl w₂)).buf_le hb)
      obtain ⟨w₁', e, hs'⟩ := execute_sim I hs call s' hb
      rw [e]
      exact ⟨rfl, hs'⟩)
    (fun e w₂ s w₁ s' hR hb => ⟨congrArg (I.onError · e) (hR hb).1, (hR hb).2⟩)
    h x w₂ s w₁ s (fun _ => ⟨rfl, hs⟩)
  obtain ⟨hs', hw⟩ := hR hb
  have hc := (runFrom_good I h x w₁ s).1.trans (runFrom_good I h x w₂ s).1.symm
  refine ⟨(runFrom I h x w₁ s).w, ?_, hw⟩
  generalize runFrom I h x w₁ s = o₁ at hr hh hs' hc
  cases o₁
  simp only at hr hh hs' hc
  rw [hr, hh, hs', hc]

end Scpi
