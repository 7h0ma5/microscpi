/-
Where a scan of a list with a Boolean class stops: exactly behind `l` on `l ++ rest` when all
of `l` is in the class and `rest` is empty or starts outside it.
-/
namespace Scpi

theorem takeWhile_dropWhile_append {α : Type} {p : α → Bool} {l rest : List α}
    (hl : ∀ b ∈ l, p b = true) (hr : ∀ b, rest.head? = some b → p b = false) :
    (l ++ rest).takeWhile p = l ∧ (l ++ rest).dropWhile p = rest := by
  rw [List.takeWhile_append_of_pos hl, List.dropWhile_append_of_pos hl]
  cases rest with
  | nil => exact ⟨List.append_nil l, rfl⟩
  | cons d r =>
    have hd := Bool.eq_false_iff.mp (hr d rfl)
    rw [List.takeWhile_cons_of_neg hd, List.dropWhile_cons_of_neg hd]
    exact ⟨List.append_nil l, rfl⟩

end Scpi
