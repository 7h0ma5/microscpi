/-
Instrumented interfaces: the user state is paired with a log to which every handler invocation
and every `onError` call appends.  The instrumented interface behaves exactly like the original
(`runFrom_instrument`), so "how many errors were reported" and "which handlers ran, in which
order" are statements about the log, for arbitrary user state and handlers.  The log of a run is
that of its first unit followed by that of the rest (`runLog_step`); the log of the tracing
wrapper, the list of events, determines every other (`runLog_eq_events`).
-/
import Scpi.Proofs.RunAppend

namespace Scpi

def Cmd.instrument {σ ε : Type} (fc : List TVal → List ε) (c : Cmd σ) : Cmd (σ × List ε) :=
  { argTys := c.argTys
    handler := fun sl tvs => (((c.handler sl.1 tvs).1, sl.2 ++ fc tvs), (c.handler sl.1 tvs).2) }

def Iface.instrument {σ ε : Type} (I : Iface σ) (fc : Nat → List TVal → List ε) (fe : Err → List ε) :
    Iface (σ × List ε) :=
  { root := I.root
    cmds := I.cmds.mapIdx fun id c => c.instrument (fc id)
    onError := fun sl e => (I.onError sl.1 e, sl.2 ++ fe e) }

/-- The logging wrapper of C06. -/
def Iface.logged {σ : Type} (I : Iface σ) : Iface (σ × List Err) :=
  I.instrument (fun _ _ => []) (fun e => [e])

inductive Ev where
  | call (id : Nat) (args : List TVal)
  | error (e : Err)
  deriving DecidableEq, Repr

def Iface.traced {σ : Type} (I : Iface σ) : Iface (σ × List Ev) :=
  I.instrument (fun id tvs => [Ev.call id tvs]) (fun e => [Ev.error e])

def invocation {σ : Type} (I : Iface σ) (call : CommandCall) : Option (Nat × List TVal) :=
  match unitSlot call with
  | none => none
  | some id =>
    match I.cmds[id]? with
    | none => none
    | some c =>
      if call.args.length ≠ c.argTys.length then none
      else match convertArgs c.argTys call.args with
        | .ok tvs => some (id, tvs)
        | .error _ => none

def callLog {ε : Type} (fc : Nat → List TVal → List ε) : Option (Nat × List TVal) → List ε
  | none => []
  | some (id, tvs) => fc id tvs

theorem invocation_of_resolve_none {σ : Type} (I : Iface σ) (call : CommandCall)
    (h : resolveCmd I call = none) : invocation I call = none := by
  unfold resolveCmd at h
  unfold invocation
  cases hs : unitSlot call with
  | none => rfl
  | some id =>
    rw [hs, Option.bind_some] at h
    simp only [h]

theorem invocation_of_resolved {σ : Type} (I : Iface σ) {call : CommandCall} {c : Cmd σ}
    (hr : resolveCmd I call = some c) :
    ∃ id, unitSlot call = some id ∧ I.cmds[id]? = some c ∧ invocation I call =
      if call.args.length ≠ c.argTys.length then none
      else match convertArgs c.argTys call.args with
        | .ok tvs => some (id, tvs)
        | .error _ => none := by
  obtain ⟨id, hs, hc⟩ := resolveCmd_eq_some.1 hr
  exact ⟨id, hs, hc, by simp only [invocation, hs, hc]⟩

section
variable {σ ε : Type} (I : Iface σ) (fc : Nat → List TVal → List ε) (fe : Err → List ε)

@[simp] theorem instrument_root : (I.instrument fc fe).root = I.root := rfl

theorem instrument_cmds_get (id : Nat) :
    (I.instrument fc fe).cmds[id]? = (I.cmds[id]?).map (Cmd.instrument (fc id)) := by
  simp [Iface.instrument, List.getElem?_mapIdx]

theorem instrument_cmds_some {id : Nat} {c : Cmd σ} (hc : I.cmds[id]? = some c) :
    (I.instrument fc fe).cmds[id]? = some (c.instrument (fc id)) := by
  rw [instrument_cmds_get, hc, Option.map_some]

theorem Msg.slotCmd_instrument_none {node : Node} {q : Bool} (h : Msg.slotCmd I node q = none) :
    Msg.slotCmd (I.instrument fc fe) node q = none := by
  unfold Msg.slotCmd at h ⊢
  cases hs : (if q then node.query else node.command) with
  | none => rfl
  | some id =>
    rw [hs, Option.bind_some] at h
    rw [Option.bind_some, instrument_cmds_get, h]
    rfl

theorem resolveCmd_instrument_none {call : CommandCall} (hr : resolveCmd I call = none) :
    resolveCmd (I.instrument fc fe) call = none :=
  Msg.slotCmd_instrument_none I fc fe ((Msg.slotCmd_eq_resolveCmd I call).trans hr)

theorem resolveCmd_instrument_some {call : CommandCall} {id : Nat} {c : Cmd σ}
    (hs : unitSlot call = some id) (hc : I.cmds[id]? = some c) :
    resolveCmd (I.instrument fc fe) call = some (c.instrument (fc id)) :=
  resolveCmd_eq_some.2 ⟨id, hs, instrument_cmds_some I fc fe hc⟩

theorem execute_instrument (call : CommandCall) (w : Writer) (s : σ) (l : List ε) :
    execute (I.instrument fc fe) call w (s, l) =
      (((execute I call w s).1, l ++ callLog fc (invocation I call)),
       (execute I call w s).2.1, (execute I call w s).2.2) := by
  -- case by case the instrumented interface is in the same case, with the instrumented command
  refine execute_cases I call w s (motive := fun r => execute (I.instrument fc fe) call w (s, l) =
    ((r.1, l ++ callLog fc (invocation I call)), r.2.1, r.2.2)) ?_ ?_ ?_ ?_ ?_
  · intro hr
    rw [execute_no_slot (resolveCmd_instrument_none I fc fe hr),
      invocation_of_resolve_none I call hr, callLog, List.append_nil]
  · intro c hr hl
    obtain ⟨id, hs, hc, hi⟩ := invocation_of_resolved I hr
    rw [execute_arity (resolveCmd_instrument_some I fc fe hs hc) hl, hi, if_pos hl, callLog,
      List.append_nil]
  · intro c e hr hl hca
    obtain ⟨id, hs, hc, hi⟩ := invocation_of_resolved I hr
    rw [execute_conversion (resolveCmd_instrument_some I fc fe hs hc) hl hca, hi,
      if_neg (not_not_intro hl), hca, callLog, List.append_nil]
  · intro c tvs s' e hr hl hca hh
    obtain ⟨id, hs, hc, hi⟩ := invocation_of_resolved I hr
    rw [execute_called (resolveCmd_instrument_some I fc fe hs hc) hl hca, hi,
      if_neg (not_not_intro hl), hca]
    simp only [Cmd.instrument, hh, callLog]
  · intro c tvs s' resp hr hl hca hh
    obtain ⟨id, hs, hc, hi⟩ := invocation_of_resolved I hr
    rw [execute_called (resolveCmd_instrument_some I fc fe hs hc) hl hca, hi,
      if_neg (not_not_intro hl), hca]
    simp only [Cmd.instrument, hh, callLog]

def unitLog (c : Cfg σ) : List ε :=
  match parse I.root c.header c.input with
  | .soft e => fe (parseErrToErr e)
  | .fatal e => fe e
  | .ok _ (some call) =>
    callLog fc (invocation I call) ++
      (match (execute I call c.w c.s).2.2 with
       | .err e => fe e
       | _ => [])
  | _ => []

theorem unitLog_fault (c : Cfg σ) (e : Err) (hf : ParseFault I c e) : unitLog I fc fe c = fe e := by
  rcases hf with ⟨e', hp, rfl⟩ | hp <;> rw [unitLog, hp]

def RunOut.withLog (o : RunOut σ) (l : List ε) : RunOut (σ × List ε) :=
  { rest := o.rest, header := o.header, w := o.w, s := (o.s, l), crash := o.crash }

def Cfg.withLog (c : Cfg σ) (l : List ε) : Cfg (σ × List ε) :=
  { header := c.header, input := c.input, w := c.w, s := (c.s, l) }

def Step.withLog : Step σ → List ε → Step (σ × List ε)
  | .stop o, l => .stop (o.withLog l)
  | .next c, l => .next (c.withLog l)

theorem unitStep_withLog (c : Cfg σ) (l : List ε) :
    unitStep (I.instrument fc fe) (c.withLog l) =
      (unitStep I c).withLog (l ++ unitLog I fc fe c) := by
  refine unitStep_cases₂ I (I.instrument fc fe) rfl c c.w (c.s, l)
    (motive := fun st st' => st' = st.withLog (l ++ unitLog I fc fe c)) ?_ ?_ ?_ ?_ ?_
  · intro hp
    rw [unitLog, hp, List.append_nil]
    rfl
  · intro e hf _
    rw [unitLog_fault I fc fe c e hf]
    rfl
  · intro e r hf _
    rw [unitLog_fault I fc fe c e hf]
    rfl
  · intro i hp
    rw [unitLog, hp, List.append_nil]
    rfl
  · intro i call hp
    -- `execute` has appended `callLog …`; `reportExec` on the pair then appends `fe e` for an error
    rw [execute_instrument]
    simp only [unitLog, hp]
    rcases execute I call c.w c.s with ⟨s', w', r⟩
    cases r <;>
      simp only [Step.withLog, Cfg.withLog, reportExec, Iface.instrument, List.append_assoc,
        List.append_nil]

def runLog (h : Node) (x : Bytes) (w : Writer) (s : σ) : List ε :=
  (runFrom (I.instrument fc fe) h x w (s, [])).s.2

theorem runFrom_instrument (h : Node) (x : Bytes) (w : Writer) (s : σ) (l : List ε) :
    runFrom (I.instrument fc fe) h x w (s, l) =
      (runFrom I h x w s).withLog (l ++ runLog I fc fe h x w s) := by
  refine runFrom_induct I (motive := fun c o => ∀ l,
    runFrom (I.instrument fc fe) c.header c.input c.w (c.s, l) =
      o.withLog (l ++ runLog I fc fe c.header c.input c.w c.s)) ?_ ?_ ?_ ⟨h, x, w, s⟩ l
  · intro c h0 l
    simp only [runLog, h0, runFrom_nil, RunOut.withLog, List.append_nil]
  · intro c o hne hs l
    -- `e`: the step of the instrumented interface from `c`, for every starting log
    have e := fun l => unitStep_withLog I fc fe c l
    simp only [hs, Step.withLog, Cfg.withLog] at e
    simp only [runLog, runFrom_stop hne (e _), RunOut.withLog, List.nil_append]
  · intro c c' o hne hs ih l
    have e := fun l => unitStep_withLog I fc fe c l
    simp only [hs, Step.withLog, Cfg.withLog] at e
    unfold runLog
    rw [runFrom_next hne (e l), runFrom_next hne (e [])]
    simp only []
    -- the second run is the one inside `runLog`, started with the log `[] ++ unitLog …`
    rw [ih, ih ([] ++ _)]
    simp only [RunOut.withLog, List.nil_append, List.append_assoc]

theorem runLog_nil (h : Node) (w : Writer) (s : σ) : runLog I fc fe h [] w s = [] := by
  simp [runLog, runFrom_nil]

theorem runLog_step (h : Node) (x : Bytes) (w : Writer) (s : σ) (hne : x ≠ []) :
    runLog I fc fe h x w s =
      unitLog I fc fe ⟨h, x, w, s⟩ ++
        match unitStep I ⟨h, x, w, s⟩ with
        | .stop _ => []
        | .next c => runLog I fc fe c.header c.input c.w c.s := by
  have e2 := unitStep_withLog I fc fe ⟨h, x, w, s⟩ []
  simp only [Cfg.withLog] at e2
  conv => lhs; unfold runLog
  rw [runFrom_step _ h x w (s, []) hne, e2]
  cases hs : unitStep I ⟨h, x, w, s⟩ with
  | stop o => simp [Step.withLog, RunOut.withLog]
  | next c =>
    simp only [Step.withLog, Cfg.withLog]
    rw [runFrom_instrument]
    simp [RunOut.withLog]

theorem runLog_fault (h : Node) (x : Bytes) (w : Writer) (s : σ) (e : Err) (hne : x ≠ [])
    (hf : ParseFault I ⟨h, x, w, s⟩ e) :
    runLog I fc fe h x w s =
      fe e ++ match afterNewline x with
        | some rest => runLog I fc fe I.root rest w (I.onError s e)
        | none => [] := by
  rw [runLog_step I fc fe h x w s hne, unitLog_fault I fc fe _ e hf, unitStep_fault I _ e hf]
  cases afterNewline x <;> rfl

theorem runLog_append (hOk : ParseFinalOk) (hErr : ParseFinalErr) (h : Node) (x y : Bytes)
    (w : Writer) (s : σ) (hx : x.getLast? = some 10) (hrest : (runFrom I h x w s).rest = []) :
    runLog I fc fe h (x ++ y) w s =
      runLog I fc fe h x w s ++
        runLog I fc fe I.root y (runFrom I h x w s).w (runFrom I h x w s).s := by
  have hl : (runFrom (I.instrument fc fe) h x w (s, [])).rest = [] := by
    rw [runFrom_instrument]
    exact hrest
  rw [runLog, (runFrom_append_consumed (I.instrument fc fe) hOk hErr h x w (s, []) hx hl).2 y,
    runFrom_instrument I fc fe h x]
  exact congrArg (fun o => o.s.2) (runFrom_instrument I fc fe I.root y _ _ _)

end

section
variable {σ : Type} (I : Iface σ)

def unitFault (c : Cfg σ) : Option Err :=
  match parse I.root c.header c.input with
  | .soft e => some (parseErrToErr e)
  | .fatal e => some e
  | .ok _ (some call) =>
    match (execute I call c.w c.s).2.2 with
    | .err e => some e
    | _ => none
  | _ => none

theorem unitLog_logged (c : Cfg σ) :
    unitLog I (fun _ _ => ([] : List Err)) (fun e => [e]) c = (unitFault I c).toList := by
  unfold unitLog unitFault
  cases parse I.root c.header c.input with
  | ok i oc =>
    cases oc with
    | none => rfl
    | some call =>
      have : callLog (fun _ _ => ([] : List Err)) (invocation I call) = [] := by
        cases invocation I call <;> rfl
      simp only [this, List.nil_append]
      cases (execute I call c.w c.s).2.2 <;> rfl
  | _ => rfl

/-- The log of `I.logged`. -/
def errorsOf (h : Node) (x : Bytes) (w : Writer) (s : σ) : List Err :=
  runLog I (fun _ _ => ([] : List Err)) (fun e => [e]) h x w s

end

namespace E2E

def fcEv : Nat → List TVal → List Ev := fun id tvs => [Ev.call id tvs]
def feEv : Err → List Ev := fun e => [Ev.error e]

def unitEvents {σ : Type} (I : Iface σ) (c : Cfg σ) : List Ev := unitLog I fcEv feEv c

def eventsOf {σ : Type} (I : Iface σ) (h : Node) (x : Bytes) (w : Writer) (s : σ) : List Ev :=
  runLog I fcEv feEv h x w s

theorem eventsOf_eq_traced {σ : Type} (I : Iface σ) (h : Node) (x : Bytes) (w : Writer) (s : σ) :
    eventsOf I h x w s = (runFrom I.traced h x w (s, [])).s.2 := rfl

def evLog {ε : Type} (fc : Nat → List TVal → List ε) (fe : Err → List ε) : Ev → List ε
  | .call id tvs => fc id tvs
  | .error e => fe e

section
variable {σ ε : Type} (I : Iface σ) (fc : Nat → List TVal → List ε) (fe : Err → List ε)

theorem unitLog_eq_events (c : Cfg σ) :
    unitLog I fc fe c = (unitEvents I c).flatMap (evLog fc fe) := by
  unfold unitEvents unitLog
  cases parse I.root c.header c.input with
  | ok i oc =>
    cases oc with
    | none => rfl
    | some call =>
      simp only [List.flatMap_append]
      congr 1
      · cases invocation I call with
        | none => rfl
        | some p => simp [callLog, fcEv, evLog]
      · cases (execute I call c.w c.s).2.2 <;> simp [feEv, evLog]
  | soft e => simp [feEv, evLog]
  | fatal e => simp [feEv, evLog]
  | _ => rfl

theorem runLog_eq_events (h : Node) (x : Bytes) (w : Writer) (s : σ) :
    runLog I fc fe h x w s = (eventsOf I h x w s).flatMap (evLog fc fe) := by
  unfold eventsOf
  refine runFrom_induct I (motive := fun c _ => runLog I fc fe c.header c.input c.w c.s =
      (runLog I fcEv feEv c.header c.input c.w c.s).flatMap (evLog fc fe)) ?_ ?_ ?_ ⟨h, x, w, s⟩
  · intro c h0
    rw [h0, runLog_nil, runLog_nil]
    rfl
  · intro c o h0 hst
    rw [runLog_step I fc fe _ _ _ _ h0, runLog_step I fcEv feEv _ _ _ _ h0, hst, unitLog_eq_events]
    simp [unitEvents]
  · intro c c' o h0 hst ih
    rw [runLog_step I fc fe _ _ _ _ h0, runLog_step I fcEv feEv _ _ _ _ h0, hst, unitLog_eq_events]
    simp only [List.flatMap_append, ih, unitEvents]

end

def evErr? : Ev → Option Err
  | .error e => some e
  | .call _ _ => none

theorem flatMap_evLog_errs (evs : List Ev) :
    evs.flatMap (evLog (fun _ _ => []) fun e => [e]) = evs.filterMap evErr? := by
  induction evs with
  | nil => rfl
  | cons ev evs ih => cases ev <;> simp [evLog, evErr?, List.filterMap_cons, ih]

theorem eventsOf_errs {σ : Type} (I : Iface σ) (h : Node) (x : Bytes) (w : Writer) (s : σ) :
    (eventsOf I h x w s).filterMap evErr? = errorsOf I h x w s := by
  rw [errorsOf, runLog_eq_events, flatMap_evLog_errs]

end E2E

theorem run_traced {σ : Type} (I : Iface σ) (x : Bytes) (w : Writer) (s : σ) (l : List Ev) :
    run I.traced x w (s, l) = (run I x w s).withLog (l ++ E2E.eventsOf I I.root x w s) :=
  runFrom_instrument I _ _ I.root x w s l

end Scpi
