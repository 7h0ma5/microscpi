/-
The spec decoder reads back what the model's encoder writes (C04, T4.1): every single
item in front of a comma or the end of the text (`leaf_reads`), then tuples and lists by
induction over the response type.
-/
import Scpi.Proofs.RespBytes
import Scpi.Proofs.StdErrTable

namespace Scpi
open C04

def SepOk (rest : Bytes) : Prop := rest = [] ∨ rest.head? = some 44

theorem sepOk_comma (r : Bytes) : SepOk (44 :: r) := Or.inr rfl

theorem SepOk.head {rest : Bytes} (h : SepOk rest) {b : Nat} (hb : rest.head? = some b) :
    b = 44 := by
  rcases h with rfl | h
  · cases hb
  · exact Option.some.inj (hb.symm.trans h)

theorem SepOk.not_dig {rest : Bytes} (h : SepOk rest) :
    ∀ b, rest.head? = some b → isDig b = false := fun _ hb => h.head hb ▸ rfl

theorem SepOk.not_quote {rest : Bytes} (h : SepOk rest) : rest.head? ≠ some 34 :=
  fun hb => absurd (h.head hb) (by decide)

theorem SepOk.stop {rest : Bytes} (h : SepOk rest) :
    ∀ b, rest.head? = some b → (b != 44) = false := fun _ hb => by
  rw [h.head hb]
  rfl

mutual
theorem all_mono {P Q : Resp → Prop} (h : ∀ r, P r → Q r) : ∀ r : Resp, Resp.All P r → Resp.All Q r
  | .seq l => allL_mono h l
  | .unit | .bool _ | .int _ | .f32 _ | .f64 _ | .str _ | .chars _ | .arb _ | .err _ => h _
theorem allL_mono {P Q : Resp → Prop} (h : ∀ r, P r → Q r) :
    ∀ l : List Resp, Resp.AllL P l → Resp.AllL Q l
  | [], _ => trivial
  | r :: rs, hr => ⟨all_mono h r hr.1, allL_mono h rs hr.2⟩
end

theorem allL_mem (P : Resp → Prop) : ∀ (l : List Resp), Resp.AllL P l → ∀ x ∈ l, Resp.All P x
  | [], _, _, hx => nomatch hx
  | r :: rs, h, x, hx => by
    rcases List.mem_cons.mp hx with rfl | hx
    · exact h.1
    · exact allL_mem P rs h.2 x hx

theorem plain_no_comma {s : Bytes} (h : isPlainDecimal s = true) : ∀ b ∈ s, (b != 44) = true := by
  have dig : ∀ x, isDig x = true → (x != 44) = true := fun x hx => by
    simp only [isDig, Bool.and_eq_true, decide_eq_true_eq] at hx
    simp only [bne_iff_ne, ne_eq]
    omega
  -- the body, after an optional `-`: digits, then nothing or `.` and digits
  have body : ∀ t : Bytes,
      (let r := t.dropWhile isDig
       r.isEmpty || (r.head? == some 46 && !r.tail.isEmpty && r.tail.all isDig)) = true →
      ∀ b ∈ t, (b != 44) = true := by
    intro t ht b hb
    rw [← List.takeWhile_append_dropWhile (p := isDig) (l := t), List.mem_append] at hb
    rcases hb with hb | hb
    · exact dig b (List.all_eq_true.1 List.all_takeWhile b hb)
    · cases hr : t.dropWhile isDig with
      | nil =>
        rw [hr] at hb
        cases hb
      | cons c r =>
        simp only [hr, List.isEmpty_cons, Bool.false_or, List.head?_cons, List.tail_cons,
          Bool.and_eq_true, beq_iff_eq, Option.some.injEq, List.all_eq_true] at ht hb
        rcases List.mem_cons.1 hb with rfl | hb
        · rw [ht.1.1]
          rfl
        · exact dig b (ht.2 b hb)
  simp only [isPlainDecimal, Bool.and_eq_true] at h
  cases s with
  | nil => nofun
  | cons c t =>
    by_cases hc : c = 45
    · subst hc
      intro b hb
      rcases List.mem_cons.1 hb with rfl | hb
      · rfl
      · exact body t h.2 b hb
    · rw [if_neg (by simpa using hc)] at h
      exact body (c :: t) h.2

theorem decFloat_finite (f : FloatFmt) (bits : Nat) (rest : Bytes) (hn : f.isNan bits = false)
    (hi : f.isInf bits = false) (hok : FloatTextOk f bits) (hr : SepOk rest) :
    decFloat f (((floatCalls f bits).map WCall.bytes).flatten ++ rest) = some (bits, rest) := by
  obtain ⟨h1, h2⟩ := takeWhile_dropWhile_append (p := (· != 44)) (plain_no_comma hok.1) hr.stop
  simp only [floatCalls_bytes, hn, hi, Bool.false_eq_true, if_false, decFloat, upToComma, h1, h2,
    hok.2, Option.map_some]

theorem decChars_bytes (s rest : Bytes) (hne : s ≠ []) (hc : 44 ∉ s) (hr : SepOk rest) :
    decChars (s ++ rest) = some (s, rest) := by
  have hs : ∀ b ∈ s, (b != 44) = true := fun b hb => bne_iff_ne.2 fun h => hc (h ▸ hb)
  obtain ⟨h1, h2⟩ := takeWhile_dropWhile_append (p := (· != 44)) hs hr.stop
  simp only [decChars, upToComma, h1, h2, List.isEmpty_iff, hne, if_false]

theorem find?_of_nodup_map {α β : Type} (f : α → β) (p : α → Bool) (x : α) :
    ∀ (l : List α), (l.map f).Nodup → x ∈ l → p x = true → (∀ y, p y = true → f y = f x) →
      l.find? p = some x
  | a :: l, hnd, hx, hp, hf => by
    rw [List.map_cons, List.nodup_cons] at hnd
    rcases List.mem_cons.1 hx with rfl | hx'
    · exact List.find?_cons_of_pos hp
    · cases hpa : p a with
      | true => exact absurd (List.mem_map.2 ⟨x, hx', (hf a hpa).symm⟩) hnd.1
      | false =>
        rw [List.find?_cons_of_neg (by simp [hpa])]
        exact find?_of_nodup_map f p x l hnd.2 hx' hp hf

theorem errOfPair_canonical (e : Err) (h : e.Canonical) : errOfPair e.number e.descBytes = e := by
  unfold errOfPair
  cases e with
  | std x =>
    rw [find?_of_nodup_map StdErr.number _ x StdErr.all stdErr_numbers_nodup (stdErr_mem_all x)
      (by simp [Err.number, Err.descBytes])
      fun y hy => of_decide_eq_true (Bool.and_eq_true _ _ ▸ hy).1]
  | custom n d =>
    rw [List.find?_eq_none.2 fun y _ hy =>
      have hy := Bool.and_eq_true _ _ ▸ hy
      h y ⟨of_decide_eq_true hy.1, of_decide_eq_true hy.2⟩]
    rfl

theorem decErr_encode (e : Err) (rest : Bytes) (hc : e.Canonical) (hr : SepOk rest) :
    decErr ((Resp.err e).encode ++ rest) = some (e, rest) := by
  rw [encode_err, List.append_assoc]
  simp only [decErr, decInt_intPieces _ _ (sepOk_comma _).not_dig, Option.bind_some,
    List.cons_append, expectComma, if_true, decStr_quoted _ _ hr.not_quote, Option.map_some,
    errOfPair_canonical e hc]

def C04.RespTy.isLeaf : RespTy → Bool
  | .seq _ | .list _ => false
  | _ => true

theorem leaf_reads {r : Resp} {ty : RespTy} (ht : HasTy r ty) (hl : ty.isLeaf = true) (hw : r.WF)
    (hf : FloatsOk r) {rest : Bytes} (hs : SepOk rest) :
    decodeP ty (r.encode ++ rest) = some (r, rest) := by
  cases ht with
  | unit => rfl
  | bool b => cases b <;> rfl
  | int v =>
    rw [encode_int]
    exact congrArg (Option.map _) (decInt_intPieces v rest hs.not_dig)
  | f32 b | f64 b =>
    exact congrArg (Option.map _) (decFloat_finite _ b rest hw.1 hw.2 (hf hw.1 hw.2) hs)
  | str s => exact congrArg (Option.map _) (decStr_quoted s rest hs.not_quote)
  | chars s =>
    rw [encode_chars]
    exact congrArg (Option.map _) (decChars_bytes s rest hw.1 hw.2 hs)
  | arb s => exact congrArg (Option.map _) (decArb_encode s rest hw)
  | err e => exact congrArg (Option.map _) (decErr_encode e rest hw hs)
  | tuple _ | list _ => cases hl

mutual
theorem fixed_WF : ∀ (t : RespTy), t.fixed = true → t.WF = true
  | .seq ts => fixedL_WFL ts
  | .unit | .bool | .int | .f32 | .f64 | .str | .chars | .arb | .err => fun _ => rfl
  | .list _ => nofun
theorem fixedL_WFL : ∀ (ts : List RespTy), RespTy.fixedL ts = true → RespTy.WFL ts = true
  | [], _ => rfl
  | t :: ts, h => by
    simp only [RespTy.fixedL, Bool.and_eq_true] at h
    simp only [RespTy.WFL, Bool.and_eq_true]
    refine ⟨?_, fixedL_WFL ts h.2⟩
    split
    · exact fixed_WF t h.1
    · exact h.1
end

theorem sepBy1_last {p : Bytes → Option (Resp × Bytes)} {i : Bytes} {x : Resp}
    (h : p i = some (x, [])) (fuel : Nat) : sepBy1 p (fuel + 1) i = some ([x], []) := by
  rw [sepBy1, h]
  rfl

theorem sepBy1_comma {p : Bytes → Option (Resp × Bytes)} {i rest : Bytes} {x : Resp}
    (h : p i = some (x, 44 :: rest)) (fuel : Nat) :
    sepBy1 p (fuel + 1) i = (sepBy1 p fuel rest).map fun (xs, r) => (x :: xs, r) := by
  rw [sepBy1, h]
  rfl

/-- Fuel above the length of the text is enough, since every element after the first takes its
comma away. -/
theorem sepBy1_seqEnc (p : Bytes → Option (Resp × Bytes)) :
    ∀ (xs : List Resp) (x : Resp) (fuel : Nat), (x.encode ++ seqEnc xs false).length < fuel →
      (∀ y ∈ x :: xs, ∀ rest, SepOk rest → p (y.encode ++ rest) = some (y, rest)) →
      sepBy1 p fuel (x.encode ++ seqEnc xs false) = some (x :: xs, [])
  | _, _, 0, hf, _ => absurd hf (Nat.not_lt_zero _)
  | [], x, fuel + 1, _, hp => by
    rw [seqEnc_nil]
    exact sepBy1_last (hp x List.mem_cons_self [] (Or.inl rfl)) fuel
  | y :: ys, x, fuel + 1, hf, hp => by
    rw [seqEnc_cons_false] at hf ⊢
    rw [sepBy1_comma (hp x List.mem_cons_self _ (sepOk_comma _)),
      sepBy1_seqEnc p ys y fuel ?_ fun z hz => hp z (List.mem_cons_of_mem _ hz)]
    · rfl
    · rw [List.length_append, List.length_cons] at hf
      omega

theorem encode_ne_nil : ∀ (ty : RespTy) {r : Resp}, HasTy r ty → ty.nonEmpty = true → r.WF →
    FloatsOk r → r.encode ≠ []
  | .seq ts => fun ht hn hw hf => by
    cases ht with | tuple hts =>
    rw [encode_seq]
    cases hts with
    | nil => cases hn
    | cons hx hts =>
      rw [seqEnc_cons_true]
      cases hts with
      | nil =>
        rw [seqEnc_nil, List.append_nil]
        exact encode_ne_nil _ hx hn hw.1 hf.1
      | cons _ _ =>
        -- two positions or more: there is a comma
        rw [seqEnc_cons_false]
        simp
  | .bool | .int | .f32 | .f64 | .str | .chars | .arb | .err => fun ht _ hw hf h => by
    -- one item other than `()`: its reader accepts its text (`leaf_reads`) and refuses the empty one
    have := leaf_reads ht rfl hw hf (rest := []) (Or.inl rfl)
    rw [h] at this
    cases this
  | .unit | .list _ => fun _ hn => nomatch hn

theorem decodeSeq_cons {t : RespTy} {ts : List RespTy} {first : Bool} {i i1 i2 i3 : Bytes}
    {x : Resp} {xs : List Resp} (h1 : (if first then some i else expectComma i) = some i1)
    (h2 : decodeP t i1 = some (x, i2)) (h3 : decodeSeq ts false i2 = some (xs, i3)) :
    decodeSeq (t :: ts) first i = some (x :: xs, i3) := by
  rw [decodeSeq, h1, Option.bind_some, h2, Option.bind_some]
  exact congrArg (Option.map _) h3

mutual
/-- What follows the value is the end of the text or, only behind a type of fixed arity, a
comma: a variable-length list reads on behind every comma. -/
theorem decodeP_encode : ∀ (ty : RespTy) (r : Resp) (rest : Bytes), HasTy r ty → r.WF →
    FloatsOk r → ty.WF = true → (rest = [] ∨ (ty.fixed = true ∧ rest.head? = some 44)) →
    decodeP ty (r.encode ++ rest) = some (r, rest)
  | .unit | .bool | .int | .f32 | .f64 | .str | .chars | .arb | .err => fun _ _ ht hw hf _ hr =>
    leaf_reads ht rfl hw hf (hr.imp id (·.2))
  | .seq ts => fun _ rest ht hw hf hty hr => by
    cases ht with | @tuple l _ hts =>
    rw [encode_seq]
    exact congrArg (Option.map _) (decodeSeq_encode ts l true rest hts hw hf hty hr)
  | .list t => fun _ rest ht hw hf hty hr => by
    cases ht with | @list l _ hall =>
    obtain ⟨hfix, hnon⟩ : t.fixed = true ∧ t.nonEmpty = true := Bool.and_eq_true_iff.1 hty
    -- a list is not of fixed arity: nothing follows it
    obtain rfl : rest = [] := hr.resolve_right fun h => by cases h.1
    rw [encode_seq, List.append_nil]
    cases l with
    | nil => rfl
    | cons x xs =>
      rw [seqEnc_cons_true]
      have hne : (x.encode ++ seqEnc xs false).isEmpty ≠ true := fun h =>
        encode_ne_nil t (hall x List.mem_cons_self) hnon hw.1 hf.1
          (List.append_eq_nil_iff.1 (List.isEmpty_iff.1 h)).1
      refine (if_neg hne).trans ?_
      rw [sepBy1_seqEnc (decodeP t) xs x _ (Nat.lt_succ_self _) fun y hy rest' hs =>
        decodeP_encode t y rest' (hall y hy) (allL_mem _ _ hw y hy) (allL_mem _ _ hf y hy)
          (fixed_WF t hfix) (hs.imp id fun h => ⟨hfix, h⟩)]
      rfl
theorem decodeSeq_encode : ∀ (ts : List RespTy) (l : List Resp) (first : Bool) (rest : Bytes),
    HasTys l ts → Resp.AllL Resp.LeafWF l → Resp.AllL LeafFloatOk l → RespTy.WFL ts = true →
    (rest = [] ∨ (RespTy.fixedL ts = true ∧ rest.head? = some 44)) →
    decodeSeq ts first (seqEnc l first ++ rest) = some (l, rest)
  | [] => fun _ first rest hts _ _ _ _ => by
    cases hts
    rw [seqEnc_nil]
    rfl
  | t :: ts => fun _ first rest hts hw hf hty hr => by
    cases hts with | @cons x _ xs _ hx hxs =>
    obtain ⟨hty1, hty2⟩ := Bool.and_eq_true_iff.1 hty
    have hr : rest = [] ∨ (t.fixed = true ∧ RespTy.fixedL ts = true) ∧ rest.head? = some 44 :=
      hr.imp_right (And.imp_left Bool.and_eq_true_iff.1)
    have helem : decodeP t (x.encode ++ (seqEnc xs false ++ rest))
        = some (x, seqEnc xs false ++ rest) := by
      cases hxs with
      | nil =>
        -- the last position: what follows the tuple follows it
        rw [seqEnc_nil]
        exact decodeP_encode t x rest hx hw.1 hf.1 hty1 (hr.imp id fun h => ⟨h.1.1, h.2⟩)
      | cons hy hys =>
        -- any other position is of fixed arity, and a comma follows
        have hfix : t.fixed = true := hty1
        refine decodeP_encode t x _ hx hw.1 hf.1 (fixed_WF t hfix) (Or.inr ⟨hfix, ?_⟩)
        rw [seqEnc_cons_false]
        rfl
    have htail := decodeSeq_encode ts xs false rest hxs hw.2 hf.2 hty2
      (hr.imp id fun h => ⟨h.1.2, h.2⟩)
    refine decodeSeq_cons ?_ helem htail
    -- the comma in front of every position but the first is written and read
    rw [seqEnc_cons, List.append_assoc, List.append_assoc]
    cases first <;> rfl
end

end Scpi
