/-
`parse` on the rendering of a well-formed program message unit (the rendering
theorem behind C11, C03, C08, C01/C02), and `parseAfterHeader` on one with more parameters
than `MAX_ARGS`.
-/
import Scpi.Proofs.RenderArgs
import Scpi.Proofs.RenderHdr

namespace Scpi

theorem Term.byte_cases (t : Term) : t.byte = 59 ∨ t.byte = 10 := by cases t <;> decide

theorem Term.byte_not_ws (t : Term) : isWs t.byte = false := by cases t <;> rfl

theorem Term.byte_delim (t : Term) : isDelim t.byte = true := by cases t <;> rfl

theorem parseTail_render (nh : Node × Option Node) (q : Bool) (args : List Value) {w : Bytes}
    (t : Term) (rest : Bytes) (hw : allWs w = true) :
    parseTail nh q (w ++ t.byte :: rest) args =
      .ok rest (some { node := nh.1, header := nh.2, query := q, args := args,
                       terminated := decide (t = .nl) }) := by
  obtain ⟨v, e⟩ := optP_whitespace_append hw (ends_cons (r := rest) t.byte_not_ws)
  simp only [parseTail, e, PResult.bind]
  cases t with
  | semi =>
    simp only [Term.byte, tag_cons_ne (t := 10) (b := 59) rest (by decide), tag_cons_self,
      PResult.map, PResult.orElse]
    rfl
  | nl =>
    simp only [Term.byte, tag_cons_self, PResult.map, PResult.orElse]
    rfl

/-- What `parse` needs of the text behind a header without question mark. -/
structure BodyForm (body : Bytes) : Prop where
  ends : Ends isMnemonicTail body
  noLevel : headerSeparator body = .soft (some (.std .HeaderSeparatorError))
  noQuery : queryMark body = (body, false)

theorem bodyForm_ws_cons {w : Bytes} {d : Nat} (r : Bytes) (hw : allWs w = true)
    (hd : isWs d = false) (h58 : d ≠ 58) (h63 : d ≠ 63) (hnil : w = [] → isMnemonicTail d = false) :
    BodyForm (w ++ d :: r) := by
  refine ⟨?_, headerSeparator_soft r hw hd h58, ?_⟩
  · cases w with
    | nil => exact ends_cons (hnil rfl)
    | cons b t =>
      simp only [allWs, List.all_cons, Bool.and_eq_true] at hw
      exact ends_cons (isDelim_not_mnemonicTail (isDelim_of_isWs hw.1))
  · cases w with
    | nil => simp only [List.nil_append, queryMark, tag_cons_ne r h63]
    | cons b t =>
      simp only [allWs, List.all_cons, Bool.and_eq_true, isWs_iff] at hw
      simp only [List.cons_append, queryMark, tag_cons_ne (t := 63) (b := b) _ (by omega)]

theorem Lex.wf_iff (ℓ : Lex) : ℓ.wf = true ↔ allWs ℓ.lead = true ∧ allWs ℓ.sep = true ∧
    ℓ.commas.all (fun p => allWs p.1 && allWs p.2) = true ∧ allWs ℓ.trail = true := by
  simp only [Lex.wf, Bool.and_eq_true, and_assoc]

def renderBody (lits : List Lit) (ℓ : Lex) (t : Term) (rest : Bytes) : Bytes :=
  ℓ.sep ++ (renderArgs lits ℓ.commas ++ (ℓ.trail ++ t.byte :: rest))

theorem renderBody_nil (ℓ : Lex) (t : Term) (rest : Bytes) :
    renderBody [] ℓ t rest = (ℓ.sep ++ ℓ.trail) ++ t.byte :: rest :=
  (List.append_assoc ℓ.sep ℓ.trail (t.byte :: rest)).symm

theorem renderBody_form {lits : List Lit} {ℓ : Lex} (t : Term) (rest : Bytes)
    (hl : lits.all Lit.wf = true) (hℓ : ℓ.wf = true)
    (hfit : (lits.isEmpty || !ℓ.sep.isEmpty) = true) : BodyForm (renderBody lits ℓ t rest) := by
  obtain ⟨_, hsep, _, htrail⟩ := (Lex.wf_iff ℓ).mp hℓ
  cases lits with
  | nil =>
    rw [renderBody_nil]
    exact bodyForm_ws_cons rest (allWs_append hsep htrail) t.byte_not_ws
      (by cases t <;> decide) (by cases t <;> decide) fun _ => by cases t <;> rfl
  | cons l ls =>
    simp only [List.all_cons, Bool.and_eq_true] at hl
    simp only [List.isEmpty_cons, Bool.false_or, Bool.not_eq_true',
      List.isEmpty_eq_false_iff] at hfit
    obtain ⟨b0, r0, e0, hws, _, h58, h63, _, _⟩ := Lit.render_head hl.1
    have hb : renderBody (l :: ls) ℓ t rest =
        ℓ.sep ++ b0 :: (r0 ++ (renderMore ls ℓ.commas ++ (ℓ.trail ++ t.byte :: rest))) := by
      simp only [renderBody, renderArgs, e0, List.append_assoc, List.cons_append]
    rw [hb]
    exact bodyForm_ws_cons _ hsep hws h58 h63 fun e => absurd e hfit

theorem queryMark_question (r : Bytes) : queryMark (63 :: r) = (r, true) := by
  simp only [queryMark, tag_cons_self]

theorem BodyForm.after_path {body : Bytes} (h : BodyForm body) (q : Bool) :
    Ends isMnemonicTail ((if q then [63] else []) ++ body) ∧
    headerSeparator ((if q then [63] else []) ++ body) =
      .soft (some (.std .HeaderSeparatorError)) ∧
    queryMark ((if q then [63] else []) ++ body) = (body, q) := by
  cases q with
  | true =>
    exact ⟨ends_cons (by decide), headerSeparator_soft_cons _ (by decide) (by decide),
      queryMark_question _⟩
  | false => exact ⟨h.ends, h.noLevel, h.noQuery⟩

theorem parseAfterHeader_params (nh : Node × Option Node) (q : Bool) {l : Lit} {ls : List Lit}
    {ℓ : Lex} (t : Term) (rest : Bytes) (hl : (l :: ls).all Lit.wf = true) (hℓ : ℓ.wf = true)
    (hfit : ((l :: ls).isEmpty || !ℓ.sep.isEmpty) = true) :
    parseAfterHeader nh ((if q then [63] else []) ++ renderBody (l :: ls) ℓ t rest) =
      parseArgs nh q (renderArgs (l :: ls) ℓ.commas ++ (ℓ.trail ++ t.byte :: rest)) true := by
  have hq := ((renderBody_form t rest hl hℓ hfit).after_path q).2.2
  simp only [List.isEmpty_cons, Bool.false_or, Bool.not_eq_true',
    List.isEmpty_eq_false_iff] at hfit
  simp only [List.all_cons, Bool.and_eq_true] at hl
  have hX : Ends isWs (renderArgs (l :: ls) ℓ.commas ++ (ℓ.trail ++ t.byte :: rest)) := by
    rw [renderArgs, List.append_assoc]
    exact ends_ws_lit hl.1 _
  rw [parseAfterHeader, hq]
  simp only [renderBody, whitespace_append ((Lex.wf_iff ℓ).mp hℓ).2.1 hfit hX]

theorem parseAfterHeader_body (nh : Node × Option Node) (q : Bool) {lits : List Lit} {ℓ : Lex}
    (t : Term) (rest : Bytes) (hl : lits.all Lit.wf = true) (hlen : lits.length ≤ maxArgs)
    (hℓ : ℓ.wf = true) (hfit : (lits.isEmpty || !ℓ.sep.isEmpty) = true) :
    parseAfterHeader nh ((if q then [63] else []) ++ renderBody lits ℓ t rest) =
      .ok rest (some { node := nh.1, header := nh.2, query := q, args := lits.map Lit.value,
                       terminated := decide (t = .nl) }) := by
  obtain ⟨_, hsep, hcs, htrail⟩ := (Lex.wf_iff ℓ).mp hℓ
  cases lits with
  | nil =>
    -- with white space in front `arguments` is tried, and no parameter starts at the terminator
    obtain ⟨e, he⟩ := arguments_head_soft (b := t.byte) rest (by cases t <;> decide)
    simp only [parseAfterHeader, ((renderBody_form t rest hl hℓ hfit).after_path q).2.2]
    rw [renderBody_nil]
    by_cases hne : ℓ.sep ++ ℓ.trail = []
    · simp only [hne, List.nil_append, whitespace_soft rest t.byte_not_ws, parseArgs,
        Bool.false_eq_true, if_false]
      exact parseTail_render nh q [] (w := []) t rest rfl
    · simp only [whitespace_append (allWs_append hsep htrail) hne (ends_cons t.byte_not_ws),
        parseArgs, if_true, he]
      exact parseTail_render nh q [] (w := []) t rest rfl
  | cons l ls =>
    rw [parseAfterHeader_params nh q t rest hl hℓ hfit]
    simp only [parseArgs, if_true, arguments_render rest hl hcs hlen htrail t.byte_cases]
    exact parseTail_render nh q _ t rest htrail

/-- `arguments` fails softly, `parseArgs` puts the input back to the first parameter, and
`parseTail` fails on its first byte: hence `InvalidCharacter` (soft). -/
theorem parseAfterHeader_overflow (nh : Node × Option Node) (q : Bool) {lits : List Lit} {ℓ : Lex}
    (t : Term) (rest : Bytes) (hl : lits.all Lit.wf = true) (hlen : maxArgs < lits.length)
    (hℓ : ℓ.wf = true) (hfit : (lits.isEmpty || !ℓ.sep.isEmpty) = true) :
    parseAfterHeader nh ((if q then [63] else []) ++ renderBody lits ℓ t rest) =
      .soft (some (.std .InvalidCharacter)) := by
  cases lits with
  | nil => exact absurd hlen (by decide)
  | cons l ls =>
    obtain ⟨_, _, hcs, htrail⟩ := (Lex.wf_iff ℓ).mp hℓ
    obtain ⟨b0, r0, e0, hws, _, _, _, h59, h10⟩ := Lit.render_head (Bool.and_eq_true_iff.mp hl).1
    rw [parseAfterHeader_params nh q t rest hl hℓ hfit]
    simp only [parseArgs, if_true,
      arguments_overflow hl hcs hlen (delimHead_ws_append (r := rest) htrail t.byte_delim)]
    simp only [renderArgs, e0, List.cons_append]
    exact parseTail_head_soft nh q _ _ hws h59 h10

theorem render_append (u : MsgUnit) (ℓ : Lex) (t : Term) (rest : Bytes) :
    render u ℓ t ++ rest = ℓ.lead ++ (u.hdr.path.render ++
      ((if u.hdr.query then [63] else []) ++ renderBody u.lits ℓ t rest)) := by
  simp only [render, Hdr.render, renderBody, List.append_assoc, List.cons_append, List.nil_append]

theorem parse_render_header (root cur : Node) {u : MsgUnit} {ℓ : Lex} (t : Term) (rest : Bytes)
    (hp : u.hdr.path.wf = true) (hl : u.lits.all Lit.wf = true) (hℓ : ℓ.wf = true)
    (hfit : ℓ.fits u = true) :
    parse root cur (render u ℓ t ++ rest) =
      match resolve root cur u.hdr.path with
      | some nh => parseAfterHeader nh
          ((if u.hdr.query then [63] else []) ++ renderBody u.lits ℓ t rest)
      | none => .fatal (.std .UndefinedHeader) := by
  have hlead : allWs ℓ.lead = true := ((Lex.wf_iff ℓ).mp hℓ).1
  obtain ⟨htail, hsep, _⟩ := (renderBody_form t rest hl hℓ hfit).after_path u.hdr.query
  obtain ⟨b0, r0, e0, hb0, h10⟩ := HdrPath.render_head hp
  rw [render_append, e0, List.cons_append, parse_skip_ws root cur _ hlead hb0 h10,
    ← List.cons_append, ← e0, commandHeader_render root cur hp htail hsep]
  cases resolve root cur u.hdr.path <;> rfl

theorem parse_render (root cur : Node) {u : MsgUnit} {ℓ : Lex} (t : Term) (rest : Bytes)
    (hu : u.wf = true) (hℓ : ℓ.wf = true) (hfit : ℓ.fits u = true) :
    parse root cur (render u ℓ t ++ rest) =
      match resolve root cur u.hdr.path with
      | some nh => .ok rest (some { node := nh.1, header := nh.2, query := u.hdr.query,
                                     args := u.lits.map Lit.value, terminated := decide (t = .nl) })
      | none => .fatal (.std .UndefinedHeader) := by
  simp only [MsgUnit.wf, Bool.and_eq_true, decide_eq_true_eq] at hu
  obtain ⟨⟨hp, hl⟩, hlen⟩ := hu
  rw [parse_render_header root cur t rest hp hl hℓ hfit]
  cases resolve root cur u.hdr.path with
  | none => rfl
  | some nh => exact parseAfterHeader_body nh u.hdr.query t rest hl hlen hℓ hfit

theorem parse_one_param (root cur : Node) {p : HdrPath} {l : Lit} (t : Term) (rest : Bytes)
    (hp : p.wf = true) (hl : l.wf = true) {nh : Node × Option Node}
    (hr : resolve root cur p = some nh) :
    parse root cur (p.render ++ 32 :: (l.render ++ t.byte :: rest)) =
      .ok rest (some { node := nh.1, header := nh.2, query := false, args := [l.value],
                       terminated := decide (t = .nl) }) := by
  have hw : (MsgUnit.mk ⟨p, false⟩ [l]).wf = true := by
    simp only [MsgUnit.wf, hp, List.all_cons, hl, List.all_nil, Bool.and_self, Bool.true_and,
      List.length_singleton]
    rfl
  have h := parse_render root cur (ℓ := ⟨[], [32], [], []⟩) t rest hw (by decide) rfl
  rw [hr] at h
  simpa only [render, Hdr.render, renderArgs, renderMore, List.nil_append, List.append_nil,
    List.append_assoc, List.cons_append, Bool.false_eq_true, if_false, List.map_cons,
    List.map_nil] using h

theorem parse_empty (root cur : Node) {w : Bytes} (rest : Bytes) (hw : allWs w = true) :
    parse root cur (w ++ 10 :: rest) = .ok rest none := by
  obtain ⟨v1, e1⟩ :=
    optP_whitespace_append hw (ends_cons (r := rest) (show isWs 10 = false by decide))
  have e2 : optP (tag 10) (10 :: rest) = .ok rest (some 10) := optP_satisfy_cons _ (by decide)
  simp only [parse, e1, PResult.bind, e2, Option.isSome_some, if_true]

end Scpi
