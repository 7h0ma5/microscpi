/-
C04 (float Display): two facts about the scaling of `format_shortest`, as arithmetic on natural
numbers.  For a sub-normal `decode` reports an inclusive interval (the scaled mantissa `2F` is even)
although the fraction field `F` may be odd; the digits still never hit an end of the interval,
since an end is `odd · 2^-a'` and needs `a' = bias + mbits` decimal places, and the loop stops long
before (`subnormal_no_tie`).  The estimate `k0 = ⌊(nbits + exp) · 1292913986 / 2^32⌋` of
`estimate_scaling_factor` is at most one too small (`estimate_first`); `1292913986 / 2^32` being
slightly below `log10 2`, `2^t ≤ 10^(⌊t·c⌋+1)` fails for some large `|t|`, so this is a statement
about finitely many exponents, checked by evaluation for `|t| ≤ 1100`.
-/
import Scpi.Proofs.PowShift

namespace Scpi
namespace Dragon

theorem le_of_mul_two_pow_eq_odd (x y A B : Nat) (h : x * 2 ^ A = 2 ^ B * y) (hy : y % 2 = 1) :
    A ≤ B := by
  apply Nat.le_of_not_lt
  intro hlt
  obtain ⟨c, rfl⟩ : ∃ c, A = B + (c + 1) := ⟨A - B - 1, by omega⟩
  have h1 : 2 ^ B * (x * 2 ^ c * 2) = 2 ^ B * y := by
    rw [← h, Nat.pow_add, Nat.pow_succ]
    ac_rfl
  have h2 := Nat.eq_of_mul_eq_mul_left (Nat.two_pow_pos B) h1
  omega

theorem odd_neighbours {m : Nat} (h2 : 2 ≤ m) (hev : m % 2 = 0) :
    (m - 1) % 2 = 1 ∧ (m + 1) % 2 = 1 := by
  omega

/-- The hypotheses are what `formatCore_spec` gives for a sub-normal (`minus = plus = 1`): the fields
`lo`, `hi`, `early` of `DigitsOut` and the bound on the first digit, with `numFactor · 10^g = 10^q`
and `scaleOf = sc`. -/
theorem subnormal_no_tie (mant0 a' p q i N sc : Nat) (ha : 1 ≤ a') (hsc : sc = 2 ^ a' * 10 ^ p)
    (hm2 : 2 ≤ mant0) (hmev : mant0 % 2 = 0)
    (hlo : 10 ^ i * ((mant0 - 1) * 10 ^ q) ≤ N * sc)
    (hhi : N * sc ≤ 10 ^ i * ((mant0 + 1) * 10 ^ q))
    (hearly : i = 0 ∨ 10 ^ (i - 1) * ((1 + 1) * 10 ^ q) < sc)
    (hfirst : mant0 * 10 ^ q < 10 * sc) :
    10 ^ i * ((mant0 - 1) * 10 ^ q) < N * sc ∧ N * sc < 10 ^ i * ((mant0 + 1) * 10 ^ q) := by
  have hn : 10 ^ i * 10 ^ q = 10 ^ (i + q) := (Nat.pow_add ..).symm
  generalize 10 ^ q = c at *
  generalize i + q = D at *
  -- whether the loop stopped at the first digit or later: `2·10^D < 10·sc`
  have hlt : 2 * 10 ^ D < 10 * sc := by
    rw [← hn]
    rcases hearly with rfl | h
    · rw [Nat.pow_zero, Nat.one_mul]
      exact Nat.lt_of_le_of_lt (Nat.mul_le_mul_right _ hm2) hfirst
    · have hp : 10 ^ i * c ≤ 10 * (10 ^ (i - 1) * c) := by
        rw [← Nat.mul_assoc, ← Nat.pow_succ']
        exact Nat.mul_le_mul_right _
          (Nat.pow_le_pow_right (by decide) (Nat.le_succ_of_pred_le (Nat.le_refl _)))
      calc 2 * (10 ^ i * c) ≤ 2 * (10 * (10 ^ (i - 1) * c)) := Nat.mul_le_mul_left 2 hp
        _ = 10 * (10 ^ (i - 1) * (2 * c)) := by ac_rfl
        _ < 10 * sc := Nat.mul_lt_mul_of_pos_left h (by decide)
  suffices key : ∀ Z, Z % 2 = 1 → 10 ^ i * (Z * c) ≠ N * sc from
    ⟨Nat.lt_of_le_of_ne hlo (key _ (odd_neighbours hm2 hmev).1),
      Nat.lt_of_le_of_ne hhi (fun h => key _ (odd_neighbours hm2 hmev).2 h.symm)⟩
  intro Z hZ htie
  subst hsc
  -- a tie at an odd `Z` needs `a' + p` places
  have hval : a' + p ≤ D := by
    apply le_of_mul_two_pow_eq_odd (N * 5 ^ p) (5 ^ D * Z)
    · rw [Nat.mul_left_comm, hn, Nat.mul_pow 2 5 D, Nat.mul_pow 2 5 p] at htie
      rw [Nat.pow_add]
      calc N * 5 ^ p * (2 ^ a' * 2 ^ p) = N * (2 ^ a' * (2 ^ p * 5 ^ p)) := by ac_rfl
        _ = Z * (2 ^ D * 5 ^ D) := htie.symm
        _ = 2 ^ D * (5 ^ D * Z) := by ac_rfl
    · rw [Nat.mul_mod, Nat.pow_mod, Nat.one_pow, hZ]
  -- but `10·2^a'·10^p ≤ 2·10^(a'+p) ≤ 2·10^D`, because `5·2^a' ≤ 10^a'`
  have h5 : 5 * 2 ^ a' ≤ 10 ^ a' := by
    rw [Nat.mul_pow 5 2 a']
    exact Nat.mul_le_mul_right _ (Nat.le_self_pow (Nat.pos_iff_ne_zero.mp ha) 5)
  refine Nat.lt_irrefl _ (Nat.lt_of_lt_of_le hlt ?_)
  calc 10 * (2 ^ a' * 10 ^ p) = 2 * (5 * 2 ^ a' * 10 ^ p) := by
        rw [Nat.mul_assoc 5, ← Nat.mul_assoc 2 5]
    _ ≤ 2 * (10 ^ a' * 10 ^ p) := Nat.mul_le_mul_left 2 (Nat.mul_le_mul_right _ h5)
    _ = 2 * 10 ^ (a' + p) := by rw [Nat.pow_add]
    _ ≤ 2 * 10 ^ D := Nat.mul_le_mul_left 2 (Nat.pow_le_pow_right (by decide) hval)

/-- `2^t ≤ 10^(k+1)`, cross-multiplied so that both exponents may be negative. -/
def EstimateAt (t k : Int) : Prop :=
  2 ^ t.toNat * 10 ^ (-(k + 1)).toNat ≤ 2 ^ (-t).toNat * 10 ^ (k + 1).toNat

/-- Row `i` of the table: `EstimateAt t ⌊t·c⌋` for `t = i` and for `t = -(i + 1)` with the
truncated exponents worked out, over `Nat` (which the kernel evaluates with its own arithmetic). -/
def estimateRow (i : Nat) : Bool :=
  Nat.ble (2 ^ i) (10 ^ (i * 1292913986 / 4294967296 + 1)) &&
  Nat.ble (10 ^ (((i + 1) * 1292913986 - 1) / 4294967296)) (2 ^ (i + 1))

/-- Checked by evaluation: covers binary32 and binary64 (`small_range` keeps `nbits + exp`
within ±1100). -/
theorem estimateAt_1100 (t : Int) (h1 : -1100 ≤ t) (h2 : t ≤ 1100) :
    EstimateAt t (t * 1292913986 / 4294967296) := by
  have h : (List.range 1101).all estimateRow = true := by decide +kernel
  unfold EstimateAt
  cases t with
  | ofNat i =>
    rw [Int.ofNat_eq_natCast] at h2 ⊢
    have row := List.all_eq_true.mp h i (List.mem_range.mpr (by omega))
    have hk : (i : Int) * 1292913986 / 4294967296 + 1 =
        ((i * 1292913986 / 4294967296 + 1 : Nat) : Int) := by omega
    rw [hk, Int.toNat_natCast, Int.toNat_natCast, Int.toNat_neg_natCast, Int.toNat_neg_natCast,
      Nat.pow_zero, Nat.mul_one, Nat.one_mul]
    exact Nat.le_of_ble_eq_true (Bool.and_eq_true_iff.mp row).1
  | negSucc i =>
    have row := List.all_eq_true.mp h i (List.mem_range.mpr (by omega))
    have hk : Int.negSucc i * 1292913986 / 4294967296 + 1 =
        -((((i + 1) * 1292913986 - 1) / 4294967296 : Nat) : Int) := by omega
    rw [hk, Int.neg_neg, Int.toNat_natCast, Int.toNat_neg_natCast]
    show 2 ^ 0 * _ ≤ 2 ^ (i + 1) * 10 ^ 0
    rw [Nat.pow_zero, Nat.mul_one, Nat.one_mul]
    exact Nat.le_of_ble_eq_true (Bool.and_eq_true_iff.mp row).2

/-- The estimate is at most one too small: `mant0 · 2^exp < 10^(k+1)`, so the first digit is below
ten.  `hT` is the table entry for `k = ⌊(nb + exp) · c⌋`. -/
theorem estimate_first (mant0 nb : Nat) (exp k : Int) (hm : mant0 < 2 ^ nb)
    (hT : EstimateAt ((nb : Int) + exp) k) :
    mant0 * (2 ^ exp.toNat * 10 ^ (-k).toNat) < 10 * (2 ^ (-exp).toNat * 10 ^ k.toNat) := by
  unfold EstimateAt at hT
  -- `mant0 · 2^exp < 2^(nb+exp) ≤ 10^(k+1)`, the second step being the table entry with its
  -- powers of ten, then of two, moved across
  -- (`x⁺ - (-x)⁺ = x` for the four exponents makes the two balances linear)
  have hk := Int.toNat_sub_toNat_neg k
  have hk1 := Int.toNat_sub_toNat_neg (k + 1)
  have hx := Int.toNat_sub_toNat_neg exp
  have hnx := Int.toNat_sub_toNat_neg ((nb : Int) + exp)
  have e10 : (-(k + 1)).toNat + (k.toNat + 1) = (-k).toNat + (k + 1).toNat := by omega
  have e2 : ((nb : Int) + exp).toNat + (-exp).toNat =
      nb + exp.toNat + (-((nb : Int) + exp)).toNat := by
    omega
  rw [pow_shift_le_iff (by decide) e10, Nat.mul_comm, Nat.mul_comm (2 ^ _),
    pow_shift_le_iff (by decide) e2] at hT
  calc mant0 * (2 ^ exp.toNat * 10 ^ (-k).toNat)
      < 2 ^ nb * (2 ^ exp.toNat * 10 ^ (-k).toNat) :=
        Nat.mul_lt_mul_of_pos_right hm (Nat.mul_pos (Nat.two_pow_pos _) (Nat.pow_pos (by decide)))
    _ = 10 ^ (-k).toNat * 2 ^ (nb + exp.toNat) := by rw [Nat.pow_add]; ac_rfl
    _ ≤ 10 ^ (k.toNat + 1) * 2 ^ (-exp).toNat := hT
    _ = 10 * (2 ^ (-exp).toNat * 10 ^ k.toNat) := by rw [Nat.pow_succ]; ac_rfl

end Dragon
end Scpi
