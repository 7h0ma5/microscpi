/-
`parse` under appending bytes: on an input that ends with a terminator every verdict but
`incomplete` is final, and after `incomplete` an accepted unit ends inside the appended
bytes (`parse_fin`).  Both directions of C12 are corollaries: `parse_ext` (forwards) and
`parse_back` (backwards), the latter because the part consumed by an accepting `parse`
ends with a terminator (`parse_strict`).
-/
import Scpi.Proofs.Final

namespace Scpi

/-- What `parseArgs` does with the outcome of `arguments` when its input starts with a byte that
is neither white space nor a terminator: behind a list that failed softly `parseTail` then fails
on that byte. -/
def afterArgs (nh : Node × Option Node) (q : Bool) (r : PResult Unit × List Value) :
    PResult (Option CommandCall) :=
  match r with
  | (.ok i6 _, args) => parseTail nh q i6 args
  | (.soft _, _) => .soft (some (.std .InvalidCharacter))
  | (.fatal e, _) => .fatal e
  | (.incomplete, _) => .incomplete
  | (.crash c, _) => .crash c

theorem parseArgs_eq_afterArgs (nh : Node × Option Node) (q : Bool) {b : Nat} (r : Bytes)
    (hws : isWs b = false) (h59 : b ≠ 59) (h10 : b ≠ 10) :
    parseArgs nh q (b :: r) true = afterArgs nh q (arguments (b :: r)) := by
  unfold parseArgs afterArgs
  rw [if_pos rfl]
  cases arguments (b :: r) with
  | mk res args =>
    cases res with
    | soft e => exact parseTail_head_soft nh q args r hws h59 h10
    | _ => rfl

theorem afterArgs_lt {nh : Node × Option Node} {q : Bool} {args : List Value} {x R : Bytes}
    {c : Option CommandCall} (e : afterArgs nh q (argsRun args x) = .ok R c) :
    R.length < x.length := by
  have hg := argsRun_good args x
  cases h : argsRun args x with
  | mk res a =>
    rw [h] at e hg
    cases res with
    | ok i6 u =>
      have h1 := (parseTail_rcall nh q a (List.suffix_refl i6)).strict.lt _ _ e
      have h2 := (hg.suffix i6 u rfl).length_le
      omega
    | _ => cases e

theorem fin_argStep {nh : Node × Option Node} {q : Bool} {y : Bytes} {args : List Value}
    {x : Bytes} (hT : HasTerm x) {k k' : Bytes → Value → PResult Unit × List Value}
    (hk : ∀ i arg, argument x = .ok i arg →
      Final y (afterArgs nh q (k i arg)) (afterArgs nh q (k' (i ++ y) arg)))
    (hg : ∀ i' arg R c, afterArgs nh q (k' i' arg) = .ok R c → R.length ≤ i'.length) :
    Final y (afterArgs nh q (argStep args x k)) (afterArgs nh q (argStep args (x ++ y) k')) := by
  have ha := argument_fin x y hT
  unfold argStep
  by_cases harg : argument x = .incomplete
  · rw [harg]
    refine ⟨fun h => absurd rfl h, fun _ R c e => ?_⟩
    -- a parameter completed by `y` ends inside `y`, and so does the unit
    cases harg' : argument (x ++ y) with
    | ok i' arg =>
      rw [harg'] at e
      have h1 := ha.inc harg _ _ harg'
      have h2 := hg i' arg R c e
      omega
    | _ =>
      rw [harg'] at e
      cases e
  · rw [ha.fin harg]
    cases hx : argument x with
    | ok i arg => exact hk i arg hx
    | incomplete => exact absurd hx harg
    | _ => exact fin_of_ext rfl

theorem argsRun_fin (nh : Node × Option Node) (q : Bool) (y : Bytes) :
    ∀ (args : List Value) (x : Bytes), (x = [] ∨ EndsT x) →
    Final y (afterArgs nh q (argsRun args x)) (afterArgs nh q (argsRun args (x ++ y))) := by
  refine argsRun_induct fun args x ih hx => ?_
  rcases hx with rfl | hE
  · -- the loop stops at the end of the input: whatever follows decides
    rw [argsRun_eq args [], argumentSeparator_nil]
    exact ⟨fun h => absurd rfl h, fun _ R c e => afterArgs_lt e⟩
  · have hT := hE.hasTerm
    have hs := cb_argumentSeparator x y hT
    rw [argsRun_eq args x, argsRun_eq args (x ++ y), hs.ext]
    cases hsep : argumentSeparator x with
    | ok i u =>
      have hTi := hs.keep _ _ hsep
      have hEi := hE.of_suffix ((good_argumentSeparator x).suffix _ _ hsep) hTi.ne_nil
      simp only [extend_ok]
      refine fin_argStep hTi (fun i2 arg harg => ?_) (fun i' arg R c e => ?_)
      · split
        · have hi2 := hEi.nil_or_of_suffix ((good_argument i).suffix _ _ harg)
          exact ih i u i2 arg hsep harg hi2
        · exact fin_of_ext rfl
      · split at e
        · exact Nat.le_of_lt (afterArgs_lt e)
        · cases e
    | soft e => exact fin_of_ext (parseTail_ext nh q args hT y)
    | _ => exact fin_of_ext rfl

theorem parseArgs_fin (nh : Node × Option Node) (q : Bool) (b : Bool) (y : Bytes) {i5 : Bytes}
    (hE : EndsT i5) : Final y (parseArgs nh q i5 b) (parseArgs nh q (i5 ++ y) b) := by
  have hT := hE.hasTerm
  cases b with
  | false => exact fin_of_ext (parseTail_ext nh q [] hT y)
  | true =>
    cases i5 with
    | nil => exact absurd rfl hT.ne_nil
    | cons b0 r0 =>
      by_cases hb : b0 ≤ 32 ∨ b0 = 59
      · -- white space or a terminator starts no parameter: the unit ends here
        obtain ⟨e, he⟩ := arguments_head_soft r0 hb
        obtain ⟨e', he'⟩ := arguments_head_soft (r0 ++ y) hb
        simp only [parseArgs, if_true, List.cons_append, he, he']
        exact fin_of_ext (parseTail_ext nh q [] hT y)
      · have hws := eq_false_of_iff (isWs_iff b0) (by omega)
        rw [List.cons_append, parseArgs_eq_afterArgs nh q r0 hws (by omega) (by omega),
          parseArgs_eq_afterArgs nh q (r0 ++ y) hws (by omega) (by omega), ← List.cons_append,
          arguments_eq, arguments_eq]
        exact fin_argStep hT
          (fun i arg harg => argsRun_fin nh q y [arg] i
            (hE.nil_or_of_suffix ((good_argument _).suffix _ _ harg)))
          (fun i' arg R c e => Nat.le_of_lt (afterArgs_lt e))

theorem parseAfterHeader_fin (nh : Node × Option Node) (y : Bytes) {i3 : Bytes} (hE : EndsT i3) :
    Final y (parseAfterHeader nh i3) (parseAfterHeader nh (i3 ++ y)) := by
  obtain ⟨eq, hTq⟩ := queryMark_ext hE.hasTerm y
  have hqs := queryMark_suffix i3
  have hw := cb_whitespace (queryMark i3).1 y hTq
  unfold parseAfterHeader
  rw [eq]
  simp only []
  rw [hw.ext]
  cases hws : whitespace (queryMark i3).1 with
  | ok i5 _ =>
    exact parseArgs_fin nh _ true y
      (hE.of_suffix (((good_whitespace _).suffix _ _ hws).trans hqs) (hw.keep _ _ hws).ne_nil)
  | soft e => exact parseArgs_fin nh _ false y (hE.of_suffix hqs hTq.ne_nil)
  | _ => exact fin_of_ext rfl

theorem parse_fin (root header : Node) (x y : Bytes) (hE : EndsT x) :
    Final y (parse root header x) (parse root header (x ++ y)) := by
  have hT := hE.hasTerm
  unfold parse
  refine fin_bind (cb_optP cb_whitespace x y hT) fun i1 _ h1 hT1 => ?_
  have hE1 := hE.of_suffix ((good_optP good_whitespace x).suffix _ _ h1) hT1.ne_nil
  rw [show optP (tag 10) (i1 ++ y) = (optP (tag 10) i1).extend y from
    ext_optP (satisfy_ext y hT1.ne_nil)]
  cases h2 : optP (tag 10) i1 with
  | ok i2 t =>
    cases t with
    | some v => exact fin_of_ext rfl
    | none =>
      cases optP_eq_ok_none h2
      simp only [extend_ok, PResult.bind, Option.isSome_none, Bool.false_eq_true, if_false]
      refine fin_bind (cb_commandHeader root header i1 y hT1) fun i3 nh h3 hT3 => ?_
      exact parseAfterHeader_fin nh y
        (hE1.of_suffix ((good_commandHeader root header i1).suffix _ _ h3) hT3.ne_nil)
  | _ => exact fin_of_ext rfl

theorem parse_ok_endsT {root header : Node} {p z : Bytes} {c : Option CommandCall}
    (h : parse root header (p ++ z) = .ok z c) : EndsT p := by
  obtain ⟨t, ht, hs⟩ := (parse_strict root header (p ++ z)).term z c h
  obtain ⟨s, rfl⟩ := List.suffix_append_self_iff.mp (show [t] ++ z <:+ p ++ z from hs)
  unfold EndsT
  rw [List.getLast?_append]
  rcases ht with rfl | rfl
  · exact Or.inl rfl
  · exact Or.inr rfl

theorem parse_back (root header : Node) {p z : Bytes} {c : Option CommandCall}
    (h : parse root header (p ++ z) = .ok z c) : parse root header p = .ok [] c :=
  (parse_fin root header p z (parse_ok_endsT h)).back (r := []) h

theorem parse_ext (root header : Node) (x y : Bytes)
    (hS : (parse root header x).isOk = true ∨ EndsNL x)
    (hI : parse root header x ≠ .incomplete) :
    parse root header (x ++ y) = (parse root header x).extend y := by
  rcases hS with hS | hS
  · -- an accepted unit: go through the consumed part, which ends with a terminator
    cases h : parse root header x with
    | ok r c =>
      obtain ⟨p, rfl⟩ := (parse_strict root header x).suffix _ _ h
      have hf := (parse_fin root header p (r ++ y) (parse_ok_endsT h)).fin
      rw [parse_back root header h] at hf
      rw [List.append_assoc, hf nofun]
      rfl
    | _ =>
      rw [h] at hS
      cases hS
  · exact (parse_fin root header x y (Or.inl hS)).fin hI

end Scpi
