/-
Byte strings and declaration lists written as string literals, for the examples.

The kernel decodes a `String` literal slowly (the cost grows faster than the length), so an example
that mentions `b "…"` or `decls ["…", …]` first rewrites with `b_ofList`/`decls_cons`: the literal
unifies with `String.ofList cs` without evaluation and only the character codes are left to compute.
For several literals `repeat rewrite [b_ofList]`, not `repeat rw`: the `rfl` that `rw` tries after
each step costs as much as the step.  Under an index, `(decls […])[0]`, rewrite inside `conv`, which
carries the bound along.
-/
import Scpi.Macro

namespace Scpi
namespace C14

/-- `strBytes` computes the same bytes (shown per literal, as in `Scpi.C01.strBytes_version`, not in
general), but plain `decide` gets stuck on it. -/
def b (s : String) : Bytes := s.toList.map Char.toNat

/-- A declaration that fails to parse would be dropped; none does (`decls_length`). -/
def decls : List String → List Command
  | [] => []
  | s :: ss =>
    match Command.parse (b s) with
    | .ok c => c :: decls ss
    | .error _ => decls ss

theorem b_ofList (cs : List Char) : b (String.ofList cs) = cs.map Char.toNat := by
  rw [b, String.toList_ofList]

theorem decls_cons (cs : List Char) (ss : List String) :
    decls (String.ofList cs :: ss) =
      match Command.parse (cs.map Char.toNat) with
      | .ok c => c :: decls ss
      | .error _ => decls ss := by
  rw [decls, b_ofList]

end C14
end Scpi
