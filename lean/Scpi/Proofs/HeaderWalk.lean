/-
The path rule of compound headers, parser side (C02/T2.1).  The invariant of the header loop
(`headerRun_walk`) says which node a header selects and which path it leaves behind, as walks in
the command tree; `parse_call` says what the call of an accepted unit is made of.
-/
import Scpi.Proofs.GoodParse
import Scpi.Spec.Lookup

namespace Scpi

def walkKeys : Node → List Bytes → Option Node
  | n, [] => some n
  | n, k :: ks => (n.child k).bind fun c => walkKeys c ks

theorem walkKeys_child {n c : Node} {k : Bytes} (hk : n.child k = some c) (ks : List Bytes) :
    walkKeys n (k :: ks) = walkKeys c ks := by
  rw [walkKeys, hk, Option.bind_some]

theorem walkKeys_append (n : Node) (ks : List Bytes) (k : Bytes) :
    walkKeys n (ks ++ [k]) = (walkKeys n ks).bind fun p => p.child k := by
  induction ks generalizing n with
  | nil => simp [walkKeys]
  | cons a as ih =>
    simp only [List.cons_append, walkKeys]
    cases n.child a with
    | none => rfl
    | some c => exact ih c

theorem walkKeys_eq_childWalk (n : Node) (ks : List Bytes) : walkKeys n ks = childWalk n ks := by
  induction ks generalizing n with
  | nil => rfl
  | cons k ks ih => simp only [walkKeys, childWalk, ih]

theorem childWalk_append (n : Node) (ks : List Bytes) (k : Bytes) :
    childWalk n (ks ++ [k]) = (childWalk n ks).bind fun p => p.child k := by
  simp only [← walkKeys_eq_childWalk, walkKeys_append]

theorem lookup_eq_ok {α : Type} {node : Node} {name : Bytes} {k : Node → PResult α} {r : Bytes}
    {v : α} (h : lookup node name k = .ok r v) :
    ∃ n, node.child name = some n ∧ k n = .ok r v := by
  unfold lookup fromUtf8 at h
  split at h
  · simp only [] at h
    split at h
    · next n hn => exact ⟨n, hn, h⟩
    · exact absurd h ofErr_ne_ok
  · exact absurd h ofErr_ne_ok

/-- The loop is entered at `node`, which the first mnemonic `k0` has reached from `header`. -/
theorem headerRun_walk : ∀ (node header : Node) (input rest : Bytes) (n : Node)
    (hdr : Option Node) (k0 : Bytes), header.child k0 = some node →
    headerRun node header input = .ok rest (n, hdr) →
    ∃ ks, walkKeys header (k0 :: ks) = some n ∧ hdr = walkKeys header (k0 :: ks).dropLast ∧
      hdr.isSome := by
  refine headerRun_induct fun node header input ih rest n hdr k0 hk h => ?_
  rw [headerRun_eq] at h
  cases hs : headerSeparator input with
  | ok i u =>
    rw [hs] at h
    simp only [] at h
    obtain ⟨i2, res, e2, h⟩ := bind_eq_ok h
    obtain ⟨child, hchild, h⟩ := lookup_eq_ok h
    obtain ⟨ks, hw, hh, hsome⟩ := ih i u i2 res child hs e2 rest n hdr res hchild h
    exact ⟨res :: ks, (walkKeys_child hk _).trans hw, hh.trans (walkKeys_child hk _).symm, hsome⟩
  | soft e =>
    rw [hs] at h
    cases h
    exact ⟨[], walkKeys_child hk [], rfl, rfl⟩
  | _ =>
    rw [hs] at h
    cases h

theorem commonHeader_ok (root : Node) (i rest : Bytes) (node : Node) (hdr : Option Node)
    (hc : commonHeader root i = .ok rest (node, hdr)) :
    hdr = none ∧ ∃ name, root.child (42 :: name) = some node := by
  unfold commonHeader at hc
  obtain ⟨i1, star, e1, hc⟩ := bind_eq_ok hc
  obtain ⟨i2, res, _, hc⟩ := bind_eq_ok hc
  obtain ⟨n, hn, hc⟩ := lookup_eq_ok hc
  cases hc
  cases beq_iff_eq.mp (satisfy_ok_cons (mapErr_eq_ok e1)).2
  exact ⟨rfl, res, hn⟩

theorem compoundHeader_absolute (root h h' : Node) (i i1 : Bytes) (u : Unit)
    (hs : optP headerSeparator i = .ok i1 (some u)) :
    compoundHeader root h i = compoundHeader root h' i := by
  unfold compoundHeader
  rw [hs]
  rfl

theorem compoundHeader_relative (root h : Node) (i i1 : Bytes)
    (hs : optP headerSeparator i = .ok i1 none) :
    compoundHeader root h i =
      (mnemonic i1).bind fun i2 res =>
        lookup h res fun node => headerLoop (i2.length + 1) node h i2 := by
  unfold compoundHeader
  rw [hs]
  rfl

theorem commandHeader_absolute (root h h' : Node) (i i1 : Bytes) (u : Unit)
    (hs : optP headerSeparator i = .ok i1 (some u)) :
    commandHeader root h i = commandHeader root h' i := by
  unfold commandHeader
  rw [compoundHeader_absolute root h h' i i1 u hs]

/-- Of the parameters this says only that they are a vector `arguments` returned, on some input,
or none: enough to bound their number (`C13.args_le_max`). -/
theorem parse_call (root h : Node) (input r : Bytes) (call : CommandCall)
    (hp : parse root h input = .ok r (some call)) :
    (∃ i2 i3, i2 <:+ input ∧ commandHeader root h i2 = .ok i3 (call.node, call.header)) ∧
    (∃ i5 b, call.args = if b = true then (arguments i5).2 else []) ∧
    ((if call.terminated then 10 else 59) :: r) <:+ input := by
  unfold parse at hp
  obtain ⟨i1, _, e1, hp⟩ := bind_eq_ok hp
  obtain ⟨i2, t, e2, hp⟩ := bind_eq_ok hp
  have s12 := ((good_optP (good_tag 10) i1).suffix _ _ e2).trans
    ((good_optP good_whitespace input).suffix _ _ e1)
  split at hp
  · cases hp
  · obtain ⟨i3, nh, e3, hp⟩ := bind_eq_ok hp
    obtain ⟨i5, b, hr⟩ :=
      parseAfterHeader_rcall nh (((good_commandHeader root h i2).suffix _ _ e3).trans s12)
    obtain ⟨t, hc, hsep⟩ := hr.call _ _ hp
    cases hc
    exact ⟨⟨i2, i3, s12, e3⟩, ⟨i5, b, rfl⟩, hsep⟩

theorem parse_congr_path (root h h' : Node) (input : Bytes)
    (hc : ∀ i2, i2 <:+ input → commandHeader root h i2 = commandHeader root h' i2) :
    parse root h input = parse root h' input := by
  unfold parse
  refine bind_congr fun i1 _ e1 => bind_congr fun i2 _ e2 => ?_
  rw [hc i2 (((good_optP (good_tag 10) i1).suffix _ _ e2).trans
    ((good_optP good_whitespace input).suffix _ _ e1))]

end Scpi
