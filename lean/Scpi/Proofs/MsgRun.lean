/-
The induction behind `Scpi.Msg.run_render` (`run_renderSemis`): `runFrom` on a rendered
message, unit by unit, using the rendering theorem `parse_render` for each unit and the
one-step equations of `runFrom` (Scpi/Props/C02.lean).
-/
import Scpi.Proofs.MsgUnit
import Scpi.Proofs.MsgNewline
import Scpi.Proofs.RenderParse
import Scpi.Props.C02

namespace Scpi
namespace Msg

theorem render_append_ne_nil (u : MsgUnit) (ℓ : Lex) (t : Term) (rest : Bytes) :
    render u ℓ t ++ rest ≠ [] := by
  rw [render_eq_body]
  exact List.append_ne_nil_of_right_ne_nil _ (List.cons_ne_nil _ _)

/-- `headerAfter` for a rendered unit, from its terminator and the `parent` its header resolves
to (`none`: a common command, the path stays). -/
def pathAfter (root cur : Node) (parent : Option Node) : Term → Node
  | .nl => root
  | .semi => parent.getD cur

theorem runFrom_render_resolved {σ : Type} (I : Iface σ) (cur : Node) (u : MsgUnit) (ℓ : Lex)
    (t : Term) (rest : Bytes) (w : Writer) (s : σ) (hu : u.wf = true) (hℓ : ℓ.wf = true)
    (hfit : ℓ.fits u = true) (node : Node) (parent : Option Node)
    (hr : resolve I.root cur u.hdr.path = some (node, parent)) :
    runFrom I cur (render u ℓ t ++ rest) w s =
      runFrom I (pathAfter I.root cur parent t) rest
        (specUnit I node u.hdr.query (u.lits.map Lit.value) w s).1
        (specUnit I node u.hdr.query (u.lits.map Lit.value) w s).2 := by
  have hp := parse_render I.root cur t rest hu hℓ hfit
  rw [hr] at hp
  -- the anonymous constructor is the call `parse_render` delivers
  rw [C02.runFrom_call I cur _ rest _ w s (render_append_ne_nil u ℓ t rest) hp,
    specUnit_eq_execute I ⟨node, parent, u.hdr.query, u.lits.map Lit.value, decide (t = .nl)⟩]
  -- `headerAfter` of this call is `pathAfter`
  cases t <;> cases parent <;> rfl

theorem runFrom_render_unresolved {σ : Type} (I : Iface σ) (cur : Node) (u : MsgUnit) (ℓ : Lex)
    (t : Term) (rest : Bytes) (w : Writer) (s : σ) (hu : u.wf = true) (hℓ : ℓ.wf = true)
    (hfit : ℓ.fits u = true) (hr : resolve I.root cur u.hdr.path = none) (r : Bytes)
    (ha : afterNewline (render u ℓ t ++ rest) = some r) :
    runFrom I cur (render u ℓ t ++ rest) w s =
      runFrom I I.root r w (I.onError s (.std .UndefinedHeader)) := by
  have hp := parse_render I.root cur t rest hu hℓ hfit
  rw [hr] at hp
  rw [C02.runFrom_fatal I cur _ w s _ (render_append_ne_nil u ℓ t rest) hp, ha]

/-- `tail` is what follows the units ended by `;`: the last unit with the terminator, or white
space and the terminator; `tu` are the units of the tail. -/
theorem run_renderSemis {σ : Type} (I : Iface σ) (tail rest : Bytes) (tu : List MsgUnit)
    (hnl : tu.all unitNlFree = true → afterNewline tail = some rest)
    (hrun : ∀ cur w s, dropSafe I.root cur tu = true →
      runFrom I cur tail w s =
        runFrom I I.root rest (specExec I cur tu w s).1 (specExec I cur tu w s).2)
    (m : List (MsgUnit × Lex)) : ∀ (cur : Node) (w : Writer) (s : σ), wfMsg m = true →
      dropSafe I.root cur (units m ++ tu) = true →
      runFrom I cur (renderSemis m ++ tail) w s =
        runFrom I I.root rest (specExec I cur (units m ++ tu) w s).1
          (specExec I cur (units m ++ tu) w s).2 := by
  induction m with
  | nil => exact fun cur w s _ hd => hrun cur w s hd
  | cons p m ih =>
    obtain ⟨u, ℓ⟩ := p
    intro cur w s hw hd
    obtain ⟨hu, hℓ, hfit, hw'⟩ := wfMsg_cons hw
    have hunits : units ((u, ℓ) :: m) ++ tu = u :: (units m ++ tu) := rfl
    rw [hunits] at hd ⊢
    simp only [renderSemis, List.append_assoc, dropSafe, specExec] at hd ⊢
    cases hr : resolve I.root cur u.hdr.path with
    | none =>
      rw [hr] at hd
      simp only [List.all_cons, List.all_append, Bool.and_eq_true] at hd
      refine runFrom_render_unresolved I cur u ℓ .semi _ w s hu hℓ hfit hr rest ?_
      -- no newline in this unit, its `;`, the other `;`-units: the first one is in the tail
      rw [afterNewline_render (unitBody_noNl_of_wf hu hℓ hd.1), Term.byte,
        afterNewline_cons_ne (by decide),
        afterNewline_skip (noNl_iff.1 (renderSemis_noNl hw' hd.2.1))]
      exact hnl hd.2.2
    | some np =>
      obtain ⟨node, parent⟩ := np
      rw [hr] at hd
      rw [runFrom_render_resolved I cur u ℓ .semi _ w s hu hℓ hfit node parent hr]
      exact ih (parent.getD cur) _ _ hw' hd

theorem allResolve_cons {root cur : Node} {u : MsgUnit} {us : List MsgUnit}
    (h : allResolve root cur (u :: us) = true) :
    ∃ node parent, resolve root cur u.hdr.path = some (node, parent) ∧
      allResolve root (parent.getD cur) us = true := by
  rw [allResolve] at h
  cases hr : resolve root cur u.hdr.path with
  | none =>
    rw [hr] at h
    cases h
  | some np =>
    rw [hr] at h
    exact ⟨np.1, np.2, rfl, h⟩

theorem dropSafe_of_allResolve (root : Node) : ∀ (cur : Node) (us : List MsgUnit),
    allResolve root cur us = true → dropSafe root cur us = true
  | _, [], _ => rfl
  | cur, u :: us, h => by
    obtain ⟨node, parent, hr, h⟩ := allResolve_cons h
    simp only [dropSafe, hr]
    exact dropSafe_of_allResolve root _ us h

theorem dropSafe_of_nlFree (root : Node) : ∀ (cur : Node) (us : List MsgUnit),
    us.all unitNlFree = true → dropSafe root cur us = true
  | _, [], _ => rfl
  | cur, u :: us, h => by
    simp only [dropSafe]
    cases hr : resolve root cur u.hdr.path with
    | none => exact h
    | some np =>
      obtain ⟨node, parent⟩ := np
      simp only [List.all_cons, Bool.and_eq_true] at h
      exact dropSafe_of_nlFree root _ us h.2

end Msg
end Scpi
