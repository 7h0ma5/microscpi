/-
Comparing `x · B^p` with `y · B^q` depends only on `p - q`: the one rescaling fact behind the
cross-multiplied comparisons of the float proofs.
-/
namespace Scpi

theorem pow_shift_eq {B x p q p' q' : Nat} (e : p + q' = p' + q) :
    x * B ^ p * B ^ q' = x * B ^ p' * B ^ q := by
  rw [Nat.mul_assoc, Nat.mul_assoc, ← Nat.pow_add, ← Nat.pow_add, e]

theorem pow_shift_le_iff {B : Nat} (hB : 0 < B) {x y p q p' q' : Nat} (e : p + q' = p' + q) :
    x * B ^ p ≤ y * B ^ q ↔ x * B ^ p' ≤ y * B ^ q' := by
  rw [← Nat.mul_le_mul_right_iff (Nat.pow_pos hB : 0 < B ^ q'), pow_shift_eq e,
    Nat.mul_right_comm y, Nat.mul_le_mul_right_iff (Nat.pow_pos hB)]

theorem pow_shift_lt_iff {B : Nat} (hB : 0 < B) {x y p q p' q' : Nat} (e : p + q' = p' + q) :
    x * B ^ p < y * B ^ q ↔ x * B ^ p' < y * B ^ q' := by
  rw [← Nat.not_le, ← Nat.not_le, pow_shift_le_iff hB (by omega : q + p' = q' + p)]

end Scpi
