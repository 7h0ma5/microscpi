/-
Keys of the macro's trie (`KeysOk`): they contain no lower-case ASCII letter, so the run-time's
case-insensitive child lookup coincides with exact lookup of the upper-cased mnemonic; sibling keys
are pairwise distinct.  For parts whose forms are such keys, matching a header as typed is spelling
its upper-cased form (`headerMatchesB_eq_expandsB`).
-/
import Scpi.Proofs.AsciiCase
import Scpi.Proofs.MacroInsert

namespace Scpi

theorem findChild_eq_lookupKey {ch : List (Bytes × Node)} (hk : ∀ kc ∈ ch, LowerFree kc.1)
    (name : Bytes) : findChild ch name = lookupKey ch (name.map toUpperAscii) := by
  induction ch with
  | nil => rfl
  | cons kc more ih =>
    obtain ⟨k, c⟩ := kc
    have hk0 : LowerFree k := hk (k, c) List.mem_cons_self
    have ih' := ih fun kc h => hk kc (List.mem_cons_of_mem _ h)
    rw [findChild, lookupKey, ih']
    by_cases he : eqIgnoreAsciiCase k name = true
    · rw [if_pos he, if_pos ((eqIgnoreAsciiCase_iff_upper hk0 name).1 he)]
    · rw [if_neg he, if_neg (fun h => he ((eqIgnoreAsciiCase_iff_upper hk0 name).2 h))]

theorem lookupKey_eq_some_iff {ch : List (Bytes × Node)} (hnd : (ch.map Prod.fst).Nodup)
    {key : Bytes} {c : Node} : lookupKey ch key = some c ↔ (key, c) ∈ ch := by
  induction ch with
  | nil => simp [lookupKey]
  | cons kc more ih =>
    obtain ⟨k, c0⟩ := kc
    rw [List.map_cons, List.nodup_cons] at hnd
    rw [lookupKey, List.mem_cons, Prod.mk.injEq]
    split
    · next hk =>
      subst hk
      have : (k, c) ∉ more := fun hm => hnd.1 (List.mem_map.2 ⟨_, hm, rfl⟩)
      simp [this, eq_comm]
    · next hk => simp [ih hnd.2, Ne.symm hk]

/-- `hnodup` is not needed for the walk: it makes the child found independent of the order of
`children`, which the macro emits in `HashMap` order (`Scpi.C01.child_unique`). -/
inductive KeysOk : Node → Prop where
  | mk (t : Nat) (ch : List (Bytes × Node)) (cmd q : Option Nat)
      (hlow : ∀ kc ∈ ch, LowerFree kc.1)
      (hnodup : (ch.map Prod.fst).Nodup)
      (hrec : ∀ kc ∈ ch, KeysOk kc.2) : KeysOk (.mk t ch cmd q)

def ChOk (ch : List (Bytes × Node)) : Prop :=
  (∀ kc ∈ ch, LowerFree kc.1) ∧ (ch.map Prod.fst).Nodup ∧ ∀ kc ∈ ch, KeysOk kc.2

theorem KeysOk.chOk {n : Node} (h : KeysOk n) : ChOk n.children := by
  cases h with | mk _ _ _ _ h1 h2 h3 => exact ⟨h1, h2, h3⟩

theorem keysOk_iff (t : Nat) (ch : List (Bytes × Node)) (cmd q : Option Nat) :
    KeysOk (.mk t ch cmd q) ↔ ChOk ch :=
  ⟨KeysOk.chOk, fun ⟨h1, h2, h3⟩ => .mk t ch cmd q h1 h2 h3⟩

theorem chOk_nil : ChOk [] := ⟨nofun, List.nodup_nil, nofun⟩

theorem keysOk_empty (t : Nat) (cmd q : Option Nat) : KeysOk (.mk t [] cmd q) :=
  (keysOk_iff t [] cmd q).2 chOk_nil

theorem chOk_cons {k : Bytes} {c : Node} {more : List (Bytes × Node)} :
    ChOk ((k, c) :: more) ↔ LowerFree k ∧ k ∉ more.map Prod.fst ∧ KeysOk c ∧ ChOk more := by
  simp only [ChOk, List.forall_mem_cons, List.map_cons, List.nodup_cons]
  constructor
  · rintro ⟨⟨hk, hlow⟩, ⟨hnot, hnodup⟩, hc, hrec⟩
    exact ⟨hk, hnot, hc, hlow, hnodup, hrec⟩
  · rintro ⟨hk, hnot, hc, hlow, hnodup, hrec⟩
    exact ⟨⟨hk, hlow⟩, ⟨hnot, hnodup⟩, hc, hrec⟩

theorem keysOk_setSlot {q : Bool} {id : Nat} {n : Node} (hn : KeysOk n) :
    KeysOk (setSlot q id n) := by
  obtain ⟨t, ch, cmd, qq⟩ := n
  cases q <;> exact (keysOk_iff _ _ _ _).2 ((keysOk_iff _ _ _ _).1 hn)

/-- `insertAt` and `insertChild` are mutual: `ih` is the induction hypothesis of `insertAt_keysOk`
for the rest of the path.  The second conjunct carries distinctness through the induction. -/
theorem insertChild_chOk (rest : List Bytes) (id : Nat) (q : Bool)
    (ih : ∀ n n', KeysOk n → insertAt n rest id q = .ok n' → KeysOk n')
    {ch ch' : List (Bytes × Node)} {part : Bytes} (hp : LowerFree part) (hch : ChOk ch)
    (h : insertChild ch part rest id q = .ok ch') :
    ChOk ch' ∧ ∀ k ∈ ch'.map Prod.fst, k = part ∨ k ∈ ch.map Prod.fst := by
  induction ch generalizing ch' with
  | nil =>
    rw [insertChild] at h
    split at h
    · next n1 h1 =>
      cases h
      exact ⟨chOk_cons.2 ⟨hp, nofun, ih _ _ (keysOk_empty 0 none none) h1, chOk_nil⟩, by simp⟩
    · cases h
  | cons kc more ihm =>
    obtain ⟨k, c⟩ := kc
    obtain ⟨hk, hnot, hc, hmore⟩ := chOk_cons.1 hch
    rw [insertChild] at h
    split at h
    · split at h
      · next c' h1 =>
        cases h
        exact ⟨chOk_cons.2 ⟨hk, hnot, ih _ _ hc h1, hmore⟩, fun k' hk' => .inr hk'⟩
      · cases h
    · next hne =>
      split at h
      · next more' h1 =>
        cases h
        obtain ⟨hmore', hkeys⟩ := ihm hmore h1
        -- `k` is not among the new keys: it is not `part`, and was not among the old ones
        refine ⟨chOk_cons.2 ⟨hk, fun hmem => (hkeys k hmem).elim hne hnot, hc, hmore'⟩, ?_⟩
        intro k' hk'
        rcases List.mem_cons.1 hk' with rfl | hm
        · exact .inr List.mem_cons_self
        · exact (hkeys k' hm).imp_right (List.mem_cons_of_mem _)
      · cases h

theorem insertAt_keysOk {n n' : Node} {path : List Bytes} {id : Nat} {q : Bool}
    (hpath : ∀ k ∈ path, LowerFree k) (hn : KeysOk n) (h : insertAt n path id q = .ok n') :
    KeysOk n' := by
  induction path generalizing n n' with
  | nil =>
    rw [insertAt_nil] at h
    split at h
    · split at h
      · cases h
        exact hn
      · cases h
    · cases h
      exact keysOk_setSlot hn
  | cons part rest ih =>
    obtain ⟨t, ch, cmd, qq⟩ := n
    rw [insertAt_cons] at h
    split at h
    · next ch' h1 =>
      cases h
      rw [keysOk_iff] at hn ⊢
      exact (insertChild_chOk rest id q
        (fun n n' hn h => ih (fun k hk => hpath k (List.mem_cons_of_mem _ hk)) hn h)
        (hpath part List.mem_cons_self) hn h1).1
    · cases h

theorem insertPaths_keysOk {n n' : Node} {ps : List (List Bytes)} {id : Nat} {q : Bool}
    (hps : ∀ p ∈ ps, ∀ k ∈ p, LowerFree k) (hn : KeysOk n)
    (h : insertPaths n ps id q = .ok n') : KeysOk n' := by
  induction ps generalizing n with
  | nil =>
    rw [insertPaths] at h
    cases h
    exact hn
  | cons p ps ih =>
    rw [insertPaths] at h
    split at h
    · next n1 h1 =>
      exact ih (fun p' hp' => hps p' (List.mem_cons_of_mem _ hp'))
        (insertAt_keysOk (hps p List.mem_cons_self) hn h1) h
    · cases h

def PartsLowerFree (c : Command) : Prop :=
  ∀ part ∈ c.parts, LowerFree part.short ∧ LowerFree part.long

instance (c : Command) : Decidable (PartsLowerFree c) := by
  unfold PartsLowerFree
  infer_instance

theorem paths_lowerFree {c : Command} (hc : PartsLowerFree c) :
    ∀ p ∈ c.paths, ∀ k ∈ p, LowerFree k :=
  fun p hp => ((mem_paths_iff c p).1 hp).forall_key hc

theorem insertAll_keysOk {n n' : Node} {cmds : List Command} {start : Nat}
    (hcmds : ∀ c ∈ cmds, PartsLowerFree c) (hn : KeysOk n)
    (h : insertAll n cmds start = .ok n') : KeysOk n' := by
  induction cmds generalizing n start with
  | nil =>
    rw [insertAll_nil] at h
    cases h
    exact hn
  | cons c cs ih =>
    rw [insertAll_cons] at h
    split at h
    · next n1 h1 =>
      exact ih (fun c' hc' => hcmds c' (List.mem_cons_of_mem _ hc'))
        (insertPaths_keysOk (paths_lowerFree (hcmds c List.mem_cons_self)) hn h1) h
    · cases h

theorem headerMatchesB_eq_expandsB {ps : List Part}
    (hps : ∀ part ∈ ps, LowerFree part.short ∧ LowerFree part.long) (ns : List Bytes) :
    headerMatchesB ps ns = expandsB ps (ns.map (·.map toUpperAscii)) := by
  induction ps generalizing ns with
  | nil => cases ns <;> rfl
  | cons p ps ih =>
    have ih := ih fun part hp => hps part (List.mem_cons_of_mem _ hp)
    obtain ⟨hs, hl⟩ := hps p List.mem_cons_self
    cases ns with
    | nil => simp only [headerMatchesB, List.map_nil, expandsB, ih]
    | cons name ns =>
      simp only [headerMatchesB, List.map_cons, expandsB, ih, eqIgnoreAsciiCase_eq_beq_upper hs,
        eqIgnoreAsciiCase_eq_beq_upper hl]

end Scpi
