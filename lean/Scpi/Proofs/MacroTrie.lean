/-
The trie insertion of the macro model (`insertAt`, `insertChild`) specified through the
exact-key observation `lookupId`: one insertion adds one entry and changes nothing else,
or fails because the slot is taken (`insSpec`).
-/
import Scpi.Macro
import Scpi.Spec.Lookup

namespace Scpi

def errKind (q : Bool) : MacroErr := if q then .queryExists else .commandExists

def lookupCh (q : Bool) (ch : List (Bytes × Node)) (k : Bytes) (p : List Bytes) : Option Nat :=
  (lookupKey ch k).bind fun c => lookupId q c p

theorem lookupId_nil (q : Bool) (n : Node) : lookupId q n [] = slot q n := rfl

theorem lookupId_cons (q : Bool) (t : Nat) (ch : List (Bytes × Node)) (cmd qq : Option Nat)
    (k : Bytes) (p : List Bytes) :
    lookupId q (.mk t ch cmd qq) (k :: p) = lookupCh q ch k p := by
  simp only [lookupId, walk, Node.children, lookupCh]
  cases lookupKey ch k <;> rfl

theorem lookupCh_nil (q : Bool) (k : Bytes) (p : List Bytes) : lookupCh q [] k p = none := rfl

theorem lookupCh_cons (q : Bool) (k0 : Bytes) (c : Node) (more : List (Bytes × Node)) (k : Bytes)
    (p : List Bytes) :
    lookupCh q ((k0, c) :: more) k p = if k = k0 then lookupId q c p else lookupCh q more k p := by
  simp only [lookupCh, lookupKey, eq_comm (a := k)]
  split <;> rfl

theorem lookupId_empty (q : Bool) (t : Nat) (p : List Bytes) :
    lookupId q (.mk t [] none none) p = none := by
  cases p with
  | nil => cases q <;> rfl
  | cons k p =>
    rw [lookupId_cons]
    rfl

def Upd (n n' : Node) (path : List Bytes) (id : Nat) (q : Bool) : Prop :=
  ∀ q' p', lookupId q' n' p' = if p' = path ∧ q' = q then some id else lookupId q' n p'

/-- The statement of `insSpec`, named because `insChSpec` assumes it for the rest of the path. -/
def InsSpec (n : Node) (path : List Bytes) (id : Nat) (q : Bool) : Prop :=
  (∃ j, j ≠ id ∧ lookupId q n path = some j ∧ insertAt n path id q = .error (errKind q)) ∨
  (∃ n', (∀ j, lookupId q n path = some j → j = id) ∧ insertAt n path id q = .ok n' ∧
    Upd n n' path id q)

def setSlot (q : Bool) (id : Nat) : Node → Node
  | .mk t ch cmd qq => if q then .mk t ch cmd (some id) else .mk t ch (some id) qq

theorem insertAt_nil (n : Node) (id : Nat) (q : Bool) :
    insertAt n [] id q =
      match slot q n with
      | some j => if j = id then .ok n else .error (errKind q)
      | none => .ok (setSlot q id n) := by
  obtain ⟨t, ch, cmd, qq⟩ := n
  rw [insertAt.eq_def]
  cases q <;> rfl

theorem lookupId_setSlot (q : Bool) (id : Nat) (n : Node) (q' : Bool) (p' : List Bytes) :
    lookupId q' (setSlot q id n) p' = if p' = [] ∧ q' = q then some id else lookupId q' n p' := by
  obtain ⟨t, ch, cmd, qq⟩ := n
  cases p' with
  | nil => cases q <;> cases q' <;> rfl
  | cons k p' => cases q <;> simp [setSlot, lookupId_cons]

theorem insertAt_cons (t : Nat) (ch : List (Bytes × Node)) (cmd qq : Option Nat) (part : Bytes)
    (rest : List Bytes) (id : Nat) (isQuery : Bool) :
    insertAt (.mk t ch cmd qq) (part :: rest) id isQuery =
      match insertChild ch part rest id isQuery with
      | .ok ch' => .ok (.mk t ch' cmd qq)
      | .error e => .error e := by
  rw [insertAt.eq_def]
  rfl

theorem insSpec_nil (n : Node) (id : Nat) (q : Bool) : InsSpec n [] id q := by
  unfold InsSpec
  rw [insertAt_nil, lookupId_nil]
  cases hs : slot q n with
  | none => exact .inr ⟨_, nofun, rfl, lookupId_setSlot q id n⟩
  | some j =>
    by_cases hj : j = id
    · subst hj
      refine .inr ⟨n, fun _ h => (Option.some.inj h).symm, if_pos rfl, fun q' p' => ?_⟩
      split
      · next h =>
          obtain ⟨rfl, rfl⟩ := h
          exact hs
      · rfl
    · exact .inl ⟨j, hj, rfl, if_neg hj⟩

/-- `insertAt` and `insertChild` are mutual: `ih` is the induction hypothesis of `insSpec` for the
rest of the path. -/
theorem insChSpec (rest : List Bytes) (id : Nat) (q : Bool) (ih : ∀ n, InsSpec n rest id q)
    (ch : List (Bytes × Node)) (part : Bytes) :
    (∃ j, j ≠ id ∧ lookupCh q ch part rest = some j ∧
      insertChild ch part rest id q = .error (errKind q)) ∨
    (∃ ch', (∀ j, lookupCh q ch part rest = some j → j = id) ∧
      insertChild ch part rest id q = .ok ch' ∧
      ∀ q' k' p', lookupCh q' ch' k' p' =
        if (k' = part ∧ p' = rest) ∧ q' = q then some id else lookupCh q' ch k' p') := by
  induction ch with
  | nil =>
    rw [insertChild]
    rcases ih (.mk 0 [] none none) with ⟨j, _, hj, _⟩ | ⟨n', _, hok, hupd⟩
    · rw [lookupId_empty] at hj
      cases hj
    · refine .inr ⟨[(part, n')], nofun, by rw [hok], fun q' k' p' => ?_⟩
      rw [lookupCh_cons, lookupCh_nil, hupd, lookupId_empty]
      by_cases hk' : k' = part <;> simp [hk']
  | cons kc more ihm =>
    obtain ⟨k, c⟩ := kc
    rw [insertChild]
    by_cases hk : k = part
    · subst hk
      rw [if_pos rfl, lookupCh_cons, if_pos rfl]
      rcases ih c with ⟨j, hne, hj, herr⟩ | ⟨c', hcomp, hok, hupd⟩
      · exact .inl ⟨j, hne, hj, by rw [herr]⟩
      · refine .inr ⟨(k, c') :: more, hcomp, by rw [hok], fun q' k' p' => ?_⟩
        rw [lookupCh_cons, lookupCh_cons, hupd]
        by_cases hk' : k' = k <;> simp [hk']
    · rw [if_neg hk, lookupCh_cons, if_neg (Ne.symm hk)]
      rcases ihm with ⟨j, hne, hj, herr⟩ | ⟨more', hcomp, hok, hupd⟩
      · exact .inl ⟨j, hne, hj, by rw [herr]⟩
      · refine .inr ⟨(k, c) :: more', hcomp, by rw [hok], fun q' k' p' => ?_⟩
        rw [lookupCh_cons, lookupCh_cons, hupd]
        by_cases hk' : k' = k <;> simp [hk', hk]

theorem insSpec (n : Node) (path : List Bytes) (id : Nat) (q : Bool) : InsSpec n path id q := by
  induction path generalizing n with
  | nil => exact insSpec_nil n id q
  | cons part rest ih =>
    obtain ⟨t, ch, cmd, qq⟩ := n
    unfold InsSpec Upd
    rw [insertAt_cons, lookupId_cons]
    rcases insChSpec rest id q ih ch part with ⟨j, hne, hj, herr⟩ | ⟨ch', hcomp, hok, hupd⟩
    · exact .inl ⟨j, hne, hj, by rw [herr]⟩
    · refine .inr ⟨_, hcomp, by rw [hok], ?_⟩
      intro q' p'
      cases p' with
      | nil => simp [lookupId_nil, slot, Node.query, Node.command]
      | cons k' p' =>
        rw [lookupId_cons, lookupId_cons, hupd]
        simp

end Scpi
