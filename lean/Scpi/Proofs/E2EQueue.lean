/-
For the end-to-end statement of C09: replaying the observable events (`Ev`) of a run on an error
queue (`replay`), and the invariant of the tracing wrapper of an `ErrIface` that makes the queue
after a unit or a run such a replay (`traced_preserves`).
-/
import Scpi.Spec.StdIface
import Scpi.Proofs.RunLog
import Scpi.Props.C09

namespace Scpi
namespace E2E

/-- `idNext`: the number of the `NEXT?` handler of an `ErrorCommands` interface. -/
def evEffect (idNext : Nat) (q : EQueue) : Ev → EQueue
  | .call id _ => if id = idNext then q.pop.2 else q
  | .error e => q.push e

def replay (idNext : Nat) (q : EQueue) (evs : List Ev) : EQueue := evs.foldl (evEffect idNext) q

theorem replay_nil (n : Nat) (q : EQueue) : replay n q [] = q := rfl

theorem replay_cons (n : Nat) (q : EQueue) (ev : Ev) (evs : List Ev) :
    replay n q (ev :: evs) = replay n (evEffect n q ev) evs := rfl

theorem replay_append (n : Nat) (q : EQueue) (a b : List Ev) :
    replay n q (a ++ b) = replay n (replay n q a) b :=
  List.foldl_append

/-- `count` stands for "no change". -/
def evOp (idNext : Nat) : Ev → C09.QOp
  | .call id _ => if id = idNext then .pop else .count
  | .error e => .push e

theorem evEffect_eq_step (n : Nat) (q : EQueue) (ev : Ev) :
    evEffect n q ev = (C09.step q (evOp n ev)).1 := by
  cases ev with
  | call id args =>
    simp only [evEffect, evOp]
    split <;> rfl
  | error e => rfl

theorem replay_eq_runOps (n : Nat) (evs : List Ev) (q : EQueue) :
    replay n q evs = (C09.runOps q (evs.map (evOp n))).1 := by
  induction evs generalizing q with
  | nil => rfl
  | cons ev evs ih =>
    rw [replay_cons, ih, evEffect_eq_step]
    simp only [List.map_cons, C09.runOps]

theorem replay_cap (n : Nat) (evs : List Ev) (q : EQueue) : (replay n q evs).cap = q.cap := by
  induction evs generalizing q with
  | nil => rfl
  | cons ev evs ih =>
    rw [replay_cons, ih, evEffect_eq_step]
    exact (C09.step_refines q _).2

theorem replay_length_le (n : Nat) (evs : List Ev) (q : EQueue) (h : q.items.length ≤ q.cap) :
    (replay n q evs).items.length ≤ q.cap := by
  rw [replay_eq_runOps]
  exact C09.length_le_cap _ q h

theorem evEffect_length_le (n : Nat) (q : EQueue) (ev : Ev) (h : q.items.length ≤ q.cap) :
    (evEffect n q ev).items.length ≤ q.cap :=
  replay_length_le n [ev] q h

theorem replay_no_next (n : Nat) (evs : List Ev) (q : EQueue)
    (h : ∀ args, Ev.call n args ∉ evs) :
    replay n q evs = C09.pushAll q (evs.filterMap evErr?) := by
  induction evs generalizing q with
  | nil => rfl
  | cons ev evs ih =>
    have ih' := fun q => ih q fun args hm => h args (List.mem_cons_of_mem _ hm)
    rw [replay_cons, ih']
    cases ev with
    | error e => rfl
    | call id args =>
      have : id ≠ n := fun hid => h args (hid ▸ List.mem_cons_self)
      simp only [evEffect, if_neg this, List.filterMap_cons, evErr?]

theorem systemErrorNext_fst (q : EQueue) : (systemErrorNext q).1 = q.pop.2 := by
  unfold systemErrorNext
  rcases h : q.pop with ⟨o, q'⟩
  cases o <;> rfl

section
variable {σ : Type} (E : ErrIface σ)

theorem ErrIface.getQ_onError (s : σ) (e : Err) :
    E.getQ (E.I.onError s e) = (E.getQ s).push e := by
  rw [E.onError_eq, E.get_set]
  rfl

theorem ErrIface.getQ_handler (id : Nat) (c : Cmd σ) (hc : E.I.cmds[id]? = some c) (s : σ)
    (tvs : List TVal) :
    E.getQ (c.handler s tvs).1 = if id = E.idNext then (E.getQ s).pop.2 else E.getQ s := by
  by_cases h1 : id = E.idNext
  · subst h1
    obtain ⟨c', hc', _, hh⟩ := E.next_cmd
    rw [hc] at hc'
    cases hc'
    rw [if_pos rfl, hh, E.get_set, systemErrorNext_fst]
  · rw [if_neg h1]
    by_cases h2 : id = E.idCount
    · subst h2
      obtain ⟨c', hc', _, hh⟩ := E.count_cmd
      rw [hc] at hc'
      cases hc'
      rw [hh]
    · exact E.others_keep id c hc h1 h2 s tvs

theorem traced_preserves (q0 : EQueue) :
    E.I.traced.Preserves fun sl => E.getQ sl.1 = replay E.idNext q0 sl.2 where
  handler id c' hc' sl tvs hs := by
    rw [show E.I.traced.cmds[id]? = _ from instrument_cmds_get E.I _ _ id] at hc'
    obtain ⟨c, hc, rfl⟩ := Option.map_eq_some_iff.1 hc'
    show E.getQ (c.handler sl.1 tvs).1 = replay E.idNext q0 (sl.2 ++ [Ev.call id tvs])
    rw [replay_append, ← hs, E.getQ_handler id c hc]
    rfl
  onError sl e hs := by
    show E.getQ (E.I.onError sl.1 e) = replay E.idNext q0 (sl.2 ++ [Ev.error e])
    rw [replay_append, ← hs, E.getQ_onError]
    rfl

theorem ErrIface.next_returned (s : σ) :
    Returned E.I E.idNext [] s (E.setQ s (E.getQ s).pop.2) (systemErrorNext (E.getQ s)).2 := by
  -- the command is taken apart so that `rfl` can put `[]` for its `argTys`
  obtain ⟨⟨_, _⟩, hc, rfl, hh⟩ := E.next_cmd
  refine ⟨_, [], hc, rfl, rfl, ?_⟩
  rw [hh, systemErrorNext_fst]

theorem ErrIface.count_returned (s : σ) :
    Returned E.I E.idCount [] s s (systemErrorCount (E.getQ s)) := by
  obtain ⟨⟨_, _⟩, hc, rfl, hh⟩ := E.count_cmd
  exact ⟨_, [], hc, rfl, rfl, hh s []⟩

end

end E2E
end Scpi
