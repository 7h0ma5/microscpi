/-
C03, floats: comparing a positive fraction `n/d` with a power of two whose exponent is an integer,
without rational numbers, and the binary exponent `roundRat` chooses by such comparisons.
-/
import Scpi.Spec.Numerals
import Scpi.Proofs.PowShift

namespace Scpi
namespace C03

/-- `2^e ≤ n/d` for an integer exponent, cross-multiplied. -/
def GeI (n d : Nat) (e : Int) : Prop := d * 2 ^ e.toNat ≤ n * 2 ^ (-e).toNat

theorem geI_iff {n d p m : Nat} {e : Int} (h : (p : Int) - m = e) :
    GeI n d e ↔ d * 2 ^ p ≤ n * 2 ^ m :=
  pow_shift_le_iff (by decide) (by omega)

theorem geI_mono {n d : Nat} {e e' : Int} (h : e' ≤ e) (hg : GeI n d e) : GeI n d e' := by
  obtain ⟨t, rfl⟩ : ∃ t : Nat, e = e' + t := ⟨(e - e').toNat, by omega⟩
  rw [geI_iff (p := e'.toNat + t) (m := (-e').toNat) (by omega)] at hg
  exact Nat.le_trans
    (Nat.mul_le_mul_left d (Nat.pow_le_pow_right (by decide) (Nat.le_add_right _ t))) hg

/-- The model's comparison `ge` inside `roundRat`. -/
def geB (n d : Nat) (e : Int) : Bool :=
  if e ≥ 0 then decide (d * 2 ^ e.toNat ≤ n) else decide (d ≤ n * 2 ^ (-e).toNat)

theorem geB_iff (n d : Nat) (e : Int) : geB n d e = true ↔ GeI n d e := by
  unfold geB GeI
  split
  · rw [show (-e).toNat = 0 by omega, Nat.pow_zero, Nat.mul_one, decide_eq_true_iff]
  · rw [show e.toNat = 0 by omega, Nat.pow_zero, Nat.mul_one, decide_eq_true_iff]

/-- The exponent `roundRat` chooses: `floor (log2 (n/d))`. -/
def chooseE (n d : Nat) : Int :=
  if geB n d ((n.log2 : Int) - (d.log2 : Int) + 1) = true then (n.log2 : Int) - (d.log2 : Int) + 1
  else if geB n d ((n.log2 : Int) - (d.log2 : Int)) = true then (n.log2 : Int) - (d.log2 : Int)
  else (n.log2 : Int) - (d.log2 : Int) - 1

theorem chooseE_spec (n d : Nat) (hn : n ≠ 0) (hd : d ≠ 0) :
    GeI n d (chooseE n d) ∧ ¬ GeI n d (chooseE n d + 1) := by
  -- `2^(a-b-1) ≤ n/d < 2^(a-b+1)` for `a = log2 n`, `b = log2 d`
  have hup : ¬ GeI n d ((n.log2 : Int) - (d.log2 : Int) + 1) := by
    rw [geI_iff (p := n.log2 + 1) (m := d.log2) (by omega), Nat.not_le, Nat.mul_comm d]
    exact Nat.mul_lt_mul_of_lt_of_le Nat.lt_log2_self (Nat.log2_self_le hd) (Nat.pos_of_ne_zero hd)
  have hlo : GeI n d ((n.log2 : Int) - (d.log2 : Int) - 1) := by
    rw [geI_iff (p := n.log2) (m := d.log2 + 1) (by omega), Nat.mul_comm n]
    exact Nat.mul_le_mul (Nat.le_of_lt Nat.lt_log2_self) (Nat.log2_self_le hn)
  unfold chooseE
  by_cases h1 : geB n d ((n.log2 : Int) - (d.log2 : Int) + 1) = true
  · -- the first branch of the model (`ge (e0 + 1)`) is never taken
    exact absurd ((geB_iff _ _ _).mp h1) hup
  rw [if_neg h1]
  by_cases h0 : geB n d ((n.log2 : Int) - (d.log2 : Int)) = true
  · rw [if_pos h0]
    exact ⟨(geB_iff _ _ _).mp h0, hup⟩
  · rw [if_neg h0, Int.sub_add_cancel]
    exact ⟨hlo, fun hg => h0 ((geB_iff _ _ _).mpr hg)⟩

end C03
end Scpi
