/-
Equations and inversion lemmas for the parser combinators of `Scpi.Basic` (and for `sign`
and `fromUtf8` of `Scpi.Lex`).
-/
import Scpi.Parse

namespace Scpi

theorem ofErr_ne_ok {α : Type} {e : StdErr} {rest : Bytes} {v : α} :
    (ofErr e : PResult α) ≠ .ok rest v := by
  unfold ofErr
  split <;> nofun

theorem ofErr_ne_crash {α : Type} {e : StdErr} {c : Crash} :
    (ofErr e : PResult α) ≠ .crash c := by
  unfold ofErr
  split <;> nofun

theorem ofErr_bind {α β : Type} (e : StdErr) (k : Bytes → α → PResult β) :
    (ofErr e : PResult α).bind k = ofErr e := by
  unfold ofErr
  split <;> rfl

theorem PD.ofErr_map {α β : Type} (e : StdErr) (f : α → β) :
    (ofErr e : PResult α).map f = ofErr e := by
  unfold ofErr
  split <;> rfl

@[simp] theorem ofErr_invalidCharacter {α : Type} :
    (ofErr .InvalidCharacter : PResult α) = .soft (some (.std .InvalidCharacter)) := rfl
@[simp] theorem ofErr_invalidSeparator {α : Type} :
    (ofErr .InvalidSeparator : PResult α) = .soft (some (.std .InvalidSeparator)) := rfl
@[simp] theorem ofErr_headerSeparatorError {α : Type} :
    (ofErr .HeaderSeparatorError : PResult α) = .soft (some (.std .HeaderSeparatorError)) := rfl
@[simp] theorem ofErr_undefinedHeader {α : Type} :
    (ofErr .UndefinedHeader : PResult α) = .fatal (.std .UndefinedHeader) := rfl

theorem bind_eq_ok {α β : Type} {r : PResult α} {k : Bytes → α → PResult β} {rest : Bytes}
    {v : β} (h : r.bind k = .ok rest v) : ∃ r1 v1, r = .ok r1 v1 ∧ k r1 v1 = .ok rest v := by
  cases r with
  | ok r1 v1 => exact ⟨r1, v1, rfl, h⟩
  | _ => cases h

theorem bind_congr {α β : Type} {p : PResult α} {f g : Bytes → α → PResult β}
    (h : ∀ r v, p = .ok r v → f r v = g r v) : p.bind f = p.bind g := by
  cases p with
  | ok r v => exact h r v rfl
  | _ => rfl

theorem map_eq_ok {α β : Type} {r : PResult α} {f : α → β} {rest : Bytes} {v : β}
    (h : r.map f = .ok rest v) : ∃ v1, r = .ok rest v1 ∧ f v1 = v := by
  cases r with
  | ok r1 v1 =>
    cases h
    exact ⟨v1, rfl, rfl⟩
  | _ => cases h

theorem mapErr_eq_ok {α : Type} {r : PResult α} {e : StdErr} {rest : Bytes} {v : α}
    (h : r.mapErr e = .ok rest v) : r = .ok rest v := by
  cases r with
  | ok r1 v1 => exact h
  | crash c => cases h
  | _ => exact absurd h ofErr_ne_ok

theorem orElse_eq_ok {α : Type} {a : PResult α} {b : Unit → PResult α} {rest : Bytes} {v : α}
    (h : a.orElse b = .ok rest v) : a = .ok rest v ∨ b () = .ok rest v := by
  cases a with
  | ok r1 v1 => exact Or.inl h
  | crash c => cases h
  | _ => exact Or.inr h

theorem optP_eq_ok_some {α : Type} {p : Parser α} {x r : Bytes} {v : α}
    (h : optP p x = .ok r (some v)) : p x = .ok r v := by
  unfold optP at h
  split at h
  · next hp =>
    cases h
    exact hp
  · cases h
  · cases h

theorem optP_eq_ok_none {α : Type} {p : Parser α} {x r : Bytes} (h : optP p x = .ok r none) :
    r = x := by
  unfold optP at h
  split at h
  · cases h
  · cases h
  · cases h
    rfl

theorem fromUtf8_eq_ok {α : Type} {s : Bytes} {k : Bytes → PResult α} {rest : Bytes} {v : α}
    (h : fromUtf8 s k = .ok rest v) : k s = .ok rest v := by
  unfold fromUtf8 at h
  split at h
  · exact h
  · exact absurd h ofErr_ne_ok

theorem satisfy_cons (p : Nat → Bool) (b : Nat) (r : Bytes) :
    satisfy p (b :: r) = if p b then .ok r b else ofErr .InvalidCharacter := rfl

theorem satisfy_cons_true {p : Nat → Bool} {b : Nat} (r : Bytes) (h : p b = true) :
    satisfy p (b :: r) = .ok r b := by
  rw [satisfy_cons, if_pos h]

theorem satisfy_cons_false {p : Nat → Bool} {b : Nat} (r : Bytes) (h : p b = false) :
    satisfy p (b :: r) = .soft (some (.std .InvalidCharacter)) := by
  rw [satisfy_cons, if_neg (Bool.eq_false_iff.mp h)]
  rfl

theorem tag_cons_self (t : Nat) (r : Bytes) : tag t (t :: r) = .ok r t :=
  satisfy_cons_true r (beq_self_eq_true t)

theorem tag_cons_ne {t b : Nat} (r : Bytes) (h : b ≠ t) :
    tag t (b :: r) = .soft (some (.std .InvalidCharacter)) :=
  satisfy_cons_false r (beq_eq_false_iff_ne.mpr h)

theorem sign_eq_satisfy : sign = satisfy fun b => b == 43 || b == 45 := by
  funext input
  cases input with
  | nil => rfl
  | cons b r =>
    simp only [sign, tag, satisfy_cons]
    cases b == 43 <;> cases b == 45 <;> rfl

theorem satisfy_ok_cons {p : Nat → Bool} {i r : Bytes} {v : Nat} (h : satisfy p i = .ok r v) :
    i = v :: r ∧ p v = true := by
  cases i with
  | nil => cases h
  | cons b i' =>
    rw [satisfy_cons] at h
    split at h
    · next hb =>
      cases h
      exact ⟨rfl, hb⟩
    · exact absurd h ofErr_ne_ok

theorem tag_ok_cons {t : Nat} {i r : Bytes} {v : Nat} (h : tag t i = .ok r v) : i = t :: r := by
  obtain ⟨e, hv⟩ := satisfy_ok_cons h
  rw [e, beq_iff_eq.mp hv]

theorem satisfy_ok_length {p : Nat → Bool} {i rest : Bytes} {v : Nat}
    (h : satisfy p i = .ok rest v) : rest.length + 1 = i.length := by
  rw [(satisfy_ok_cons h).1]
  rfl

/-- `PResult (Option CommandCall)` has no `DecidableEq`, because a call holds a `Node`; that a
result is a given refusal is decidable all the same, and `decide` on refused test vectors needs
no more. -/
instance {α : Type} (r : PResult α) : Decidable (r = .incomplete) :=
  match r with
  | .incomplete => isTrue rfl
  | .ok _ _ | .soft _ | .fatal _ | .crash _ => isFalse nofun

instance {α : Type} (r : PResult α) (e : Option Err) : Decidable (r = .soft e) :=
  match r with
  | .soft e' => decidable_of_iff (e' = e) ⟨congrArg _, PResult.soft.inj⟩
  | .ok _ _ | .fatal _ | .incomplete | .crash _ => isFalse nofun

instance {α : Type} (r : PResult α) (e : Err) : Decidable (r = .fatal e) :=
  match r with
  | .fatal e' => decidable_of_iff (e' = e) ⟨congrArg _, PResult.fatal.inj⟩
  | .ok _ _ | .soft _ | .incomplete | .crash _ => isFalse nofun

end Scpi
