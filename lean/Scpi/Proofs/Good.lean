/-
`RGood input r`: the result `r`, obtained while parsing `input`, is not a crash (no slice
or subtraction out of range, no `unwrap` on `None`, no loop without progress within the
fuel given), and when it is `ok rest _` then `rest` is a suffix of `input`.  Proved once
per combinator; every recogniser of parser.rs inherits it by composition (`Good`).
-/
import Scpi.Proofs.FirstByte

namespace Scpi

structure RGood {α : Type} (input : Bytes) (r : PResult α) : Prop where
  noCrash : ∀ c, r ≠ .crash c
  suffix : ∀ rest v, r = .ok rest v → rest <:+ input

def Good {α : Type} (p : Parser α) : Prop := ∀ i, RGood i (p i)

/-- `digits` is `lead1 isDigit isDigit` and `mnemonic` is `lead1 isAlpha isMnemonicTail` by
definition, so a lemma about `lead1` applies to them as it stands. -/
def lead1 (p q : Nat → Bool) : Parser Bytes := fun input =>
  (satisfy p input).bind fun i1 b =>
  (takeWhileP q i1).bind fun i2 res =>
  .ok i2 (b :: res)

/-- Likewise `argumentSeparator` is `separator 44 .InvalidSeparator` and `headerSeparator` is
`separator 58 .HeaderSeparatorError`. -/
def separator (t : Nat) (e : StdErr) : Parser Unit := fun input =>
  (optP whitespace input).bind fun i1 _ =>
  ((tag t i1).mapErr e).bind fun i2 _ =>
  (optP whitespace i2).bind fun i3 _ =>
  .ok i3 ()

theorem RGood.mono {α : Type} {i j : Bytes} {r : PResult α} (h : RGood i r) (hij : i <:+ j) :
    RGood j r :=
  ⟨h.noCrash, fun rest v e => (h.suffix rest v e).trans hij⟩

theorem rgood_ok {α : Type} {input rest : Bytes} {v : α} (h : rest <:+ input) :
    RGood input (PResult.ok rest v) :=
  ⟨nofun, fun _ _ e => (PResult.ok.inj e).1 ▸ h⟩

theorem rgood_incomplete {α : Type} {input : Bytes} :
    RGood input (PResult.incomplete : PResult α) :=
  ⟨nofun, nofun⟩

theorem rgood_ofErr {α : Type} {input : Bytes} {e : StdErr} :
    RGood input (ofErr e : PResult α) :=
  ⟨fun _ => ofErr_ne_crash, fun _ _ h => absurd h ofErr_ne_ok⟩

theorem rgood_bind {α β : Type} {input : Bytes} {r : PResult α} {k : Bytes → α → PResult β}
    (h : RGood input r)
    (hk : ∀ rest v, r = .ok rest v → rest <:+ input → RGood input (k rest v)) :
    RGood input (r.bind k) := by
  cases r with
  | ok rest v => exact hk rest v rfl (h.suffix rest v rfl)
  | crash c => exact absurd rfl (h.noCrash c)
  | _ => exact ⟨fun _ h => (by cases h), fun _ _ h => (by cases h)⟩

theorem rgood_map {α β : Type} {input : Bytes} {r : PResult α} {f : α → β}
    (h : RGood input r) : RGood input (r.map f) := by
  cases r with
  | ok rest v => exact rgood_ok (h.suffix rest v rfl)
  | crash c => exact absurd rfl (h.noCrash c)
  | _ => exact ⟨fun _ h => (by cases h), fun _ _ h => (by cases h)⟩

theorem rgood_orElse {α : Type} {input : Bytes} {a : PResult α} {b : Unit → PResult α}
    (ha : RGood input a) (hb : RGood input (b ())) : RGood input (a.orElse b) := by
  cases a with
  | ok rest v => exact ha
  | crash c => exact absurd rfl (ha.noCrash c)
  | _ => exact hb

theorem rgood_orNext {α : Type} {input : Bytes} {a : PResult α} {b : Unit → PResult α}
    (ha : RGood input a) (hb : RGood input (b ())) : RGood input (a.orNext b) := by
  cases a with
  | ok rest v => exact ha
  | crash c => exact absurd rfl (ha.noCrash c)
  | incomplete => exact rgood_incomplete
  | _ => exact hb

theorem rgood_mapErr {α : Type} {input : Bytes} {a : PResult α} {e : StdErr}
    (ha : RGood input a) : RGood input (a.mapErr e) := by
  cases a with
  | ok rest v => exact ha
  | crash c => exact absurd rfl (ha.noCrash c)
  | _ => exact rgood_ofErr

theorem good_optP {α : Type} {p : Parser α} (h : Good p) : Good (optP p) := by
  intro i
  have hi := h i
  unfold optP
  cases hp : p i with
  | ok rest v => exact rgood_ok (hi.suffix rest v hp)
  | crash c => exact absurd hp (hi.noCrash c)
  | _ => exact rgood_ok (List.suffix_refl i)

theorem good_takeWhileP (p : Nat → Bool) : Good (takeWhileP p) :=
  fun _ => rgood_ok (List.dropWhile_suffix p)

theorem good_satisfy (p : Nat → Bool) : Good (satisfy p) := by
  intro i
  cases i with
  | nil => exact rgood_incomplete
  | cons b rest =>
    rw [satisfy_cons]
    split
    · exact rgood_ok (List.suffix_cons b rest)
    · exact rgood_ofErr

theorem good_tag (t : Nat) : Good (tag t) := good_satisfy _

theorem rgood_consumed {α : Type} {input i rest : Bytes} {k : Bytes → PResult α}
    (hs : rest <:+ i) (hk : ∀ s, RGood input (k s)) : RGood input (consumed i rest k) := by
  unfold consumed
  rw [if_pos hs.length_le]
  exact hk _

theorem rgood_fromUtf8 {α : Type} {input s : Bytes} {k : Bytes → PResult α}
    (hk : ∀ s, RGood input (k s)) : RGood input (fromUtf8 s k) := by
  unfold fromUtf8
  split
  · exact hk _
  · exact rgood_ofErr

theorem good_whitespace : Good whitespace := by
  intro input
  unfold whitespace
  split
  · exact rgood_incomplete
  · exact rgood_ofErr
  · exact rgood_ok (List.dropWhile_suffix isWs)

theorem good_lead1 (p q : Nat → Bool) : Good (lead1 p q) := by
  intro input
  refine rgood_bind (good_satisfy _ input) fun i1 b _ h1 => ?_
  refine rgood_bind ((good_takeWhileP _ i1).mono h1) fun i2 res _ h2 => ?_
  exact rgood_ok h2

theorem good_digits : Good digits := good_lead1 isDigit isDigit
theorem good_mnemonic : Good mnemonic := good_lead1 isAlpha isMnemonicTail

theorem good_sign : Good sign := sign_eq_satisfy ▸ good_satisfy _

theorem good_characters : Good characters := by
  intro input
  unfold characters
  refine rgood_bind (good_mnemonic input) fun i res _ h => ?_
  exact rgood_fromUtf8 fun s => rgood_ok h

theorem good_mantissa : Good mantissa := by
  intro input
  unfold mantissa
  refine rgood_bind (good_optP good_sign input) fun i1 _ _ h1 => ?_
  refine rgood_bind ((good_optP good_digits i1).mono h1) fun i2 d1 _ h2 => ?_
  refine rgood_bind ((good_optP (good_tag 46) i2).mono h2) fun i3 _ _ h3 => ?_
  refine rgood_bind ?_ fun i4 _ _ h4 => ?_
  · split
    · exact (good_optP good_digits i3).mono h3
    · exact rgood_map ((good_digits i3).mono h3)
  · exact rgood_consumed h4 fun s => rgood_ok h4

theorem good_exponent : Good exponent := by
  intro input
  unfold exponent
  refine rgood_bind (good_satisfy _ input) fun i1 _ _ h1 => ?_
  refine rgood_bind ((good_optP good_sign i1).mono h1) fun i2 _ _ h2 => ?_
  refine rgood_bind ((good_digits i2).mono h2) fun i3 _ _ h3 => ?_
  exact rgood_consumed h3 fun s => rgood_ok h3

theorem good_decimal : Good decimal := by
  intro input
  unfold decimal
  refine rgood_bind (good_mantissa input) fun i1 _ _ h1 => ?_
  refine rgood_bind ((good_optP good_exponent i1).mono h1) fun i2 _ _ h2 => ?_
  exact rgood_consumed h2 fun s => rgood_fromUtf8 fun s => rgood_ok h2

theorem good_nondecimal (l d : Nat → Bool) (mk : Bytes → Value) : Good (nondecimal l d mk) := by
  intro input
  unfold nondecimal
  refine rgood_bind (good_tag 35 input) fun i1 _ _ h1 => ?_
  refine rgood_bind ((good_satisfy _ i1).mono h1) fun i2 _ _ h2 => ?_
  refine rgood_bind ((good_satisfy _ i2).mono h2) fun i3 _ e3 h3 => ?_
  refine rgood_bind ((good_takeWhileP _ i3).mono h3) fun i4 _ e4 h4 => ?_
  have h42 : i4 <:+ i2 :=
    ((good_takeWhileP _ i3).suffix _ _ e4).trans ((good_satisfy _ i2).suffix _ _ e3)
  exact rgood_consumed h42 fun s => rgood_fromUtf8 fun s => rgood_ok h4

theorem good_hexadecimal : Good hexadecimal := good_nondecimal _ _ _
theorem good_binary : Good binary := good_nondecimal _ _ _
theorem good_octal : Good octal := good_nondecimal _ _ _

theorem good_quoted (q : Nat) : Good (quoted q) := by
  intro input
  unfold quoted
  refine rgood_bind (good_tag q input) fun i1 _ _ h1 => ?_
  refine rgood_bind ((good_takeWhileP _ i1).mono h1) fun i2 res _ h2 => ?_
  refine rgood_bind ((good_tag q i2).mono h2) fun i3 _ _ h3 => ?_
  exact rgood_fromUtf8 fun s => rgood_ok h3

theorem rgood_blockPayload (cnt : Nat) (i3 : Bytes) : RGood i3 (blockPayload cnt i3) := by
  unfold blockPayload
  split
  · exact rgood_incomplete
  · exact rgood_ok (List.drop_suffix _ _)

theorem rgood_blockBody (nd : Nat) (i2 : Bytes) : RGood i2 (blockBody nd i2) := by
  unfold blockBody
  split
  · exact rgood_incomplete
  · split
    · exact rgood_ofErr
    · split
      · exact rgood_ofErr
      · exact (rgood_blockPayload _ _).mono (List.drop_suffix _ _)

theorem good_arbitrary : Good arbitrary := by
  intro input
  rw [arbitrary_eq]
  refine rgood_bind (good_tag 35 input) fun i1 _ _ h1 => ?_
  refine rgood_bind (rgood_map ((good_satisfy _ i1).mono h1)) fun i2 nd _ h2 => ?_
  exact (rgood_blockBody nd i2).mono h2

theorem good_separator (t : Nat) (e : StdErr) : Good (separator t e) := by
  intro input
  refine rgood_bind (good_optP good_whitespace input) fun i1 _ _ h1 => ?_
  refine rgood_bind (rgood_mapErr ((good_tag t i1).mono h1)) fun i2 _ _ h2 => ?_
  refine rgood_bind ((good_optP good_whitespace i2).mono h2) fun i3 _ _ h3 => ?_
  exact rgood_ok h3

theorem good_argumentSeparator : Good argumentSeparator := good_separator 44 .InvalidSeparator
theorem good_headerSeparator : Good headerSeparator := good_separator 58 .HeaderSeparatorError

theorem separator_lt {t : Nat} {e : StdErr} {i r : Bytes} {u : Unit}
    (h : separator t e i = .ok r u) : r.length < i.length := by
  unfold separator at h
  obtain ⟨i1, _, e1, h⟩ := bind_eq_ok h
  obtain ⟨i2, _, e2, h⟩ := bind_eq_ok h
  obtain ⟨i3, _, e3, h⟩ := bind_eq_ok h
  cases h
  have s1 := ((good_optP good_whitespace i).suffix _ _ e1).length_le
  have l2 := satisfy_ok_length (mapErr_eq_ok e2)
  have s3 := ((good_optP good_whitespace i2).suffix _ _ e3).length_le
  omega

theorem good_argument : Good argument := by
  intro input
  unfold argument
  refine rgood_orNext (rgood_orNext (rgood_orNext (rgood_orNext (rgood_orNext (rgood_orNext
    (rgood_orNext (good_characters input) (good_decimal input)) (good_hexadecimal input))
    (good_binary input)) (good_octal input)) (good_quoted 39 input)) (good_quoted 34 input))
    (good_arbitrary input)

end Scpi
