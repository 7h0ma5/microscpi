/-
C03, floats: the grid of finite float values in units of the smallest sub-normal (`fscaled`).
A pattern up to the infinity pattern, read as `k·2^mbits + q` with `q` the significand, stands for
`q·2^k` (`fscaled_cell`).  Hence one step in the pattern is one unit in the last place, the grid
is strictly increasing, and no grid point lies strictly inside a cell `[q·2^k, (q+1)·2^k]` of the
binade the cell belongs to (`gridVal_gap`).
-/
import Scpi.Proofs.ConvPow

namespace Scpi
namespace C03

/-- Grid value from exponent field `E` and fraction field `F` (`M = 2^mbits`). -/
def gridVal (M E F : Nat) : Nat := (if E = 0 then F else M + F) * 2 ^ (E - 1)

theorem gridVal_zero (M F : Nat) : gridVal M 0 F = F := by simp [gridVal]

theorem gridVal_succ (M E F : Nat) : gridVal M (E + 1) F = (M + F) * 2 ^ E := by simp [gridVal]

theorem gridVal_lt_top (M E F : Nat) (hF : F < M) : gridVal M E F < M * 2 ^ E := by
  cases E with
  | zero => rwa [gridVal_zero, Nat.pow_zero, Nat.mul_one]
  | succ E =>
    rw [gridVal_succ, Nat.pow_succ, Nat.mul_comm (2 ^ E), ← Nat.mul_assoc, Nat.mul_two]
    exact Nat.mul_lt_mul_of_pos_right (Nat.add_lt_add_left hF M) (Nat.two_pow_pos E)

/-- `k = 0` is the sub-normal spacing; `M ≤ q` puts the cell in or above the first normal binade
of spacing `2^k`. -/
theorem gridVal_gap (M E F q k : Nat) (hF : F < M) (hk : k = 0 ∨ M ≤ q) :
    gridVal M E F ≤ q * 2 ^ k ∨ (q + 1) * 2 ^ k ≤ gridVal M E F := by
  rcases hk with rfl | hq
  · rw [Nat.pow_zero, Nat.mul_one, Nat.mul_one]
    exact (Nat.lt_or_ge q _).symm
  · by_cases hE : E ≤ k
    · -- a lower binade lies below the cell altogether
      left
      calc gridVal M E F ≤ M * 2 ^ E := Nat.le_of_lt (gridVal_lt_top M E F hF)
        _ ≤ M * 2 ^ k := Nat.mul_le_mul_left _ (Nat.pow_le_pow_right (by decide) hE)
        _ ≤ q * 2 ^ k := Nat.mul_le_mul_right _ hq
    · -- at spacing `2^(j+k)` every grid value is a multiple of `2^k`
      obtain ⟨j, rfl⟩ : ∃ j, E = j + k + 1 := ⟨E - k - 1, by omega⟩
      rw [gridVal_succ, Nat.pow_add, ← Nat.mul_assoc]
      exact (Nat.lt_or_ge q _).symm.imp (Nat.mul_le_mul_right _) (Nat.mul_le_mul_right _)

theorem expMax_lt (f : FloatFmt) : f.expMax < 2 ^ f.ebits :=
  Nat.sub_lt (Nat.two_pow_pos _) Nat.one_pos

theorem expMax_eq (f : FloatFmt) (he : 2 ≤ f.ebits) : f.expMax = 2 * f.bias + 1 ∧ 1 ≤ f.bias := by
  obtain ⟨k, hk⟩ := Nat.exists_eq_add_of_le' he
  have := Nat.one_lt_two_pow (Nat.succ_ne_zero k)
  unfold FloatFmt.expMax FloatFmt.bias
  rw [hk, show k + 2 - 1 = k + 1 from rfl, Nat.pow_succ 2 (k + 1)]
  omega

theorem expMax_ge_three (f : FloatFmt) (he : 2 ≤ f.ebits) : 3 ≤ f.expMax := by
  have := expMax_eq f he
  omega

theorem fracOf_lt (f : FloatFmt) (bits : Nat) : f.fracOf bits < 2 ^ f.mbits :=
  Nat.mod_lt _ (Nat.two_pow_pos _)

theorem expOf_eq_div (f : FloatFmt) (bits : Nat) (h : bits ≤ f.infBits) :
    f.expOf bits = bits / 2 ^ f.mbits :=
  Nat.mod_eq_of_lt (Nat.lt_of_le_of_lt
    (Nat.div_le_of_le_mul (Nat.mul_comm f.expMax _ ▸ h)) (expMax_lt f))

theorem expOf_lt (f : FloatFmt) (b : Nat) (hb : b < f.infBits) : f.expOf b < f.expMax := by
  rw [expOf_eq_div f b (Nat.le_of_lt hb)]
  exact (Nat.div_lt_iff_lt_mul (Nat.two_pow_pos _)).2 hb

theorem expOf_mul_add_fracOf (f : FloatFmt) (b : Nat) (hb : b ≤ f.infBits) :
    f.expOf b * 2 ^ f.mbits + f.fracOf b = b := by
  rw [expOf_eq_div f b hb]
  exact Nat.div_add_mod' b _

theorem expOf_succ_carry (f : FloatFmt) (b : Nat) (hb : b < f.infBits) (h : f.fracOf (b + 1) = 0) :
    f.expOf (b + 1) = f.expOf b + 1 := by
  rw [expOf_eq_div f _ hb, expOf_eq_div f b (Nat.le_of_lt hb)]
  exact Nat.succ_div_of_mod_eq_zero h

theorem expOf_succ_same (f : FloatFmt) (b : Nat) (hb : b < f.infBits) (h : f.fracOf (b + 1) ≠ 0) :
    f.expOf (b + 1) = f.expOf b := by
  rw [expOf_eq_div f _ hb, expOf_eq_div f b (Nat.le_of_lt hb)]
  exact Nat.succ_div_of_mod_ne_zero h

theorem fields_of (f : FloatFmt) (E F : Nat) (hF : F < 2 ^ f.mbits) (hE : E ≤ f.expMax) :
    f.expOf (E * 2 ^ f.mbits + F) = E ∧ f.fracOf (E * 2 ^ f.mbits + F) = F := by
  have hM := Nat.two_pow_pos f.mbits
  constructor
  · unfold FloatFmt.expOf
    rw [Nat.mul_comm, Nat.mul_add_div hM, Nat.div_eq_of_lt hF, Nat.add_zero]
    exact Nat.mod_eq_of_lt (Nat.lt_of_le_of_lt hE (expMax_lt f))
  · unfold FloatFmt.fracOf
    rw [Nat.mul_comm, Nat.mul_add_mod, Nat.mod_eq_of_lt hF]

theorem signBit_eq (f : FloatFmt) : f.signBit = 2 ^ f.mbits * 2 ^ f.ebits := by
  unfold FloatFmt.signBit
  rw [Nat.pow_add]

theorem split_sign (f : FloatFmt) (bits : Nat) (hw : bits < 2 * f.signBit) :
    bits = bits % f.signBit + (if f.negOf bits = true then f.signBit else 0) := by
  unfold FloatFmt.negOf
  rw [Nat.mod_eq_of_lt hw]
  by_cases h : f.signBit ≤ bits
  · rw [if_pos (decide_eq_true h), Nat.mod_eq_sub_mod h, Nat.mod_eq_of_lt (by omega),
      Nat.sub_add_cancel h]
  · rw [if_neg (mt of_decide_eq_true h), Nat.mod_eq_of_lt (Nat.lt_of_not_le h), Nat.add_zero]

theorem fracOf_mod_sign (f : FloatFmt) (bits : Nat) :
    f.fracOf (bits % f.signBit) = f.fracOf bits := by
  unfold FloatFmt.fracOf
  rw [signBit_eq]
  exact Nat.mod_mul_right_mod _ _ _

theorem expOf_mod_sign (f : FloatFmt) (bits : Nat) :
    f.expOf (bits % f.signBit) = f.expOf bits := by
  unfold FloatFmt.expOf
  rw [signBit_eq, Nat.mod_mul_right_div_self, Nat.mod_mod]

theorem expOf_of_lt_signBit (f : FloatFmt) (b : Nat) (hb : b < f.signBit) :
    f.expOf b = b / 2 ^ f.mbits ∧ b / 2 ^ f.mbits < 2 ^ f.ebits := by
  rw [signBit_eq] at hb
  have hdiv : b / 2 ^ f.mbits < 2 ^ f.ebits :=
    (Nat.div_lt_iff_lt_mul (Nat.two_pow_pos _)).mpr (by rw [Nat.mul_comm]; exact hb)
  exact ⟨Nat.mod_eq_of_lt hdiv, hdiv⟩

theorem lt_infBits (f : FloatFmt) (b : Nat) (hb : b < f.signBit) (hfin : f.expOf b ≠ f.expMax) :
    b < f.infBits := by
  obtain ⟨hE, hdiv⟩ := expOf_of_lt_signBit f b hb
  rw [hE] at hfin
  unfold FloatFmt.infBits
  apply (Nat.div_lt_iff_lt_mul (Nat.two_pow_pos _)).mp
  unfold FloatFmt.expMax at hfin ⊢
  omega

theorem fields_zero_iff (f : FloatFmt) (bits : Nat) :
    f.expOf bits = 0 ∧ f.fracOf bits = 0 ↔ bits % f.signBit = 0 := by
  rw [← expOf_mod_sign, ← fracOf_mod_sign]
  have hlt : bits % f.signBit < f.signBit := Nat.mod_lt _ (Nat.two_pow_pos _)
  generalize bits % f.signBit = b at hlt
  constructor
  · intro ⟨hE, hF⟩
    have h := Nat.div_add_mod' b (2 ^ f.mbits)
    unfold FloatFmt.fracOf at hF
    rw [← (expOf_of_lt_signBit f b hlt).1, hE, hF] at h
    omega
  · intro h
    rw [h]
    simp [FloatFmt.expOf, FloatFmt.fracOf]

theorem fscaled_eq_gridVal (f : FloatFmt) (bits : Nat) :
    fscaled f bits = gridVal (2 ^ f.mbits) (f.expOf bits) (f.fracOf bits) := rfl

theorem fscaled_of_fields (f : FloatFmt) (E F : Nat) (hF : F < 2 ^ f.mbits) (hE : E ≤ f.expMax) :
    fscaled f (E * 2 ^ f.mbits + F) = gridVal (2 ^ f.mbits) E F := by
  obtain ⟨h1, h2⟩ := fields_of f E F hF hE
  rw [fscaled_eq_gridVal, h1, h2]

theorem fscaled_zero (f : FloatFmt) : fscaled f 0 = 0 := by
  simp [fscaled, fmant, FloatFmt.expOf, FloatFmt.fracOf]

theorem fscaled_inf (f : FloatFmt) (he : 1 ≤ f.expMax) :
    fscaled f f.infBits = 2 ^ f.mbits * 2 ^ (f.expMax - 1) := by
  obtain ⟨X, hX⟩ := Nat.exists_eq_add_of_le' he
  have h := fscaled_of_fields f (X + 1) 0 (Nat.two_pow_pos _) (Nat.le_of_eq hX.symm)
  rw [Nat.add_zero, gridVal_succ] at h
  unfold FloatFmt.infBits
  rw [hX, h, Nat.add_zero, Nat.add_sub_cancel]

theorem two_le_pow_mbits (f : FloatFmt) (hm : 1 ≤ f.mbits) : 2 ≤ 2 ^ f.mbits :=
  Nat.one_lt_two_pow (by omega)

theorem two_le_infBits (f : FloatFmt) (hm : 1 ≤ f.mbits) (he : 2 ≤ f.ebits) : 2 ≤ f.infBits :=
  Nat.le_trans (two_le_pow_mbits f hm)
    (Nat.le_mul_of_pos_left _ (Nat.le_trans (by decide) (expMax_ge_three f he)))

theorem fscaled_one (f : FloatFmt) (hm : 1 ≤ f.mbits) : fscaled f 1 = 1 := by
  have h := fscaled_of_fields f 0 1 (two_le_pow_mbits f hm) (Nat.zero_le _)
  rwa [Nat.zero_mul, Nat.zero_add, gridVal_zero] at h

theorem fscaled_maxFinite (f : FloatFmt) (he : 2 ≤ f.ebits) :
    fscaled f (f.infBits - 1) = (2 ^ (f.mbits + 1) - 1) * 2 ^ (f.expMax - 2) := by
  have hM := Nat.two_pow_pos f.mbits
  obtain ⟨X, hX⟩ := Nat.exists_eq_add_of_le' (Nat.le_of_succ_le (expMax_ge_three f he))
  -- exponent field `expMax - 1`, all fraction bits set
  unfold FloatFmt.infBits
  rw [hX, Nat.succ_mul (X + 1), Nat.add_sub_assoc hM,
    fscaled_of_fields f (X + 1) _ (Nat.sub_lt hM Nat.one_pos) (by omega), gridVal_succ,
    Nat.add_sub_cancel, Nat.pow_succ, Nat.mul_two, Nat.add_sub_assoc hM]

theorem fscaled_gap (f : FloatFmt) (u q k : Nat) (hk : k = 0 ∨ 2 ^ f.mbits ≤ q) :
    fscaled f u ≤ q * 2 ^ k ∨ (q + 1) * 2 ^ k ≤ fscaled f u :=
  gridVal_gap _ _ _ q k (fracOf_lt f u) hk

theorem two_dvd_pow_mbits (f : FloatFmt) (hm : 1 ≤ f.mbits) : 2 ∣ 2 ^ f.mbits :=
  Nat.dvd_of_mod_eq_zero (Nat.two_pow_mod_two_eq_zero.2 hm)

theorem fracOf_mod_two (f : FloatFmt) (hm : 1 ≤ f.mbits) (x : Nat) : f.fracOf x % 2 = x % 2 :=
  Nat.mod_mod_of_dvd x (two_dvd_pow_mbits f hm)

theorem cell_mod_two (f : FloatFmt) (hm : 1 ≤ f.mbits) (k q : Nat) :
    (k * 2 ^ f.mbits + q) % 2 = q % 2 := by
  obtain ⟨c, hc⟩ := two_dvd_pow_mbits f hm
  rw [hc, Nat.mul_left_comm, Nat.mul_add_mod]

/-- `q = 2·2^mbits` is allowed: it is the first point of the next binade, and IEEE patterns are
laid out so that the carry needs no special case. -/
theorem fscaled_cell (f : FloatFmt) (k q : Nat) (hk : k = 0 ∨ 2 ^ f.mbits ≤ q)
    (hq : q ≤ 2 * 2 ^ f.mbits) (hb : k * 2 ^ f.mbits + q ≤ f.infBits) :
    fscaled f (k * 2 ^ f.mbits + q) = q * 2 ^ k := by
  have hM := Nat.two_pow_pos f.mbits
  unfold FloatFmt.infBits at hb
  -- `q = j·M + F` with `j ≤ 2`: exponent field `k + j`, fraction field `F`
  have key : ∀ j F, F < 2 ^ f.mbits → q = j * 2 ^ f.mbits + F →
      gridVal (2 ^ f.mbits) (k + j) F = q * 2 ^ k →
      fscaled f (k * 2 ^ f.mbits + q) = q * 2 ^ k := by
    intro j F hF hqj hval
    have hE : k + j ≤ f.expMax := by
      apply Nat.le_of_mul_le_mul_right _ hM
      calc (k + j) * 2 ^ f.mbits = k * 2 ^ f.mbits + j * 2 ^ f.mbits := Nat.add_mul ..
        _ ≤ k * 2 ^ f.mbits + q := Nat.add_le_add_left (hqj ▸ Nat.le_add_right _ _) _
        _ ≤ _ := hb
    have hbits : k * 2 ^ f.mbits + q = (k + j) * 2 ^ f.mbits + F := by
      rw [Nat.add_mul, Nat.add_assoc, hqj]
    rw [hbits, fscaled_of_fields f _ F hF hE, hval]
  by_cases h1 : q < 2 ^ f.mbits
  · obtain rfl : k = 0 := hk.resolve_right (Nat.not_le_of_lt h1)
    exact key 0 q h1 (by rw [Nat.zero_mul, Nat.zero_add])
      (by rw [gridVal_zero, Nat.pow_zero, Nat.mul_one])
  · have h1' := Nat.le_of_not_lt h1
    by_cases h2 : q < 2 * 2 ^ f.mbits
    · refine key 1 (q - 2 ^ f.mbits) (by omega) (by rw [Nat.one_mul, Nat.add_sub_cancel' h1']) ?_
      rw [gridVal_succ, Nat.add_sub_cancel' h1']
    · obtain rfl : q = 2 * 2 ^ f.mbits := Nat.le_antisymm hq (Nat.le_of_not_lt h2)
      refine key 2 0 hM (Nat.add_zero _).symm ?_
      rw [gridVal_succ, Nat.add_zero, Nat.pow_succ, Nat.mul_comm 2, Nat.mul_assoc, Nat.mul_comm 2]

/-- Every pattern up to the infinity pattern has the form `fscaled_cell` speaks of. -/
theorem pattern_eq (f : FloatFmt) (b : Nat) (hb : b ≤ f.infBits) :
    (f.expOf b - 1) * 2 ^ f.mbits + fmant f b = b := by
  have h := expOf_mul_add_fracOf f b hb
  unfold fmant
  by_cases hE : f.expOf b = 0
  · rwa [if_pos hE, hE, Nat.zero_sub, ← hE]
  · obtain ⟨E, hE'⟩ := Nat.exists_eq_succ_of_ne_zero hE
    rwa [if_neg hE, hE', Nat.succ_sub_one, ← Nat.add_assoc, ← Nat.succ_mul, ← hE']

theorem fscaled_succ (f : FloatFmt) (b : Nat) (hb : b < f.infBits) :
    fscaled f (b + 1) = fscaled f b + 2 ^ (f.expOf b - 1) := by
  have hp := pattern_eq f b (Nat.le_of_lt hb)
  have hF := fracOf_lt f b
  -- the significand is below `2·2^mbits`, and at least `2^mbits` above the sub-normal spacing
  have hq : fmant f b < 2 * 2 ^ f.mbits ∧ (f.expOf b - 1 = 0 ∨ 2 ^ f.mbits ≤ fmant f b) := by
    unfold fmant
    split <;> omega
  have h := fscaled_cell f (f.expOf b - 1) (fmant f b + 1) (hq.2.imp_right Nat.le_succ_of_le) hq.1
    (by rwa [← Nat.add_assoc, hp])
  rw [← Nat.add_assoc, hp] at h
  rw [h, Nat.add_mul, Nat.one_mul]
  rfl

/-- The infinity pattern is included: its `fscaled` is the value the next binade would start
with. -/
theorem fscaled_lt (f : FloatFmt) (u v : Nat) (huv : u < v) (hv : v ≤ f.infBits) :
    fscaled f u < fscaled f v := by
  induction v with
  | zero => exact absurd huv (Nat.not_lt_zero u)
  | succ v ih =>
    have hstep : fscaled f v < fscaled f (v + 1) := by
      rw [fscaled_succ f v hv]
      exact Nat.lt_add_of_pos_right (Nat.two_pow_pos _)
    rcases Nat.lt_or_eq_of_le (Nat.le_of_lt_succ huv) with h | rfl
    · exact Nat.lt_trans (ih h (Nat.le_of_succ_le hv)) hstep
    · exact hstep

theorem fscaled_le (f : FloatFmt) (u v : Nat) (huv : u ≤ v) (hv : v ≤ f.infBits) :
    fscaled f u ≤ fscaled f v := by
  rcases Nat.lt_or_eq_of_le huv with h | rfl
  · exact Nat.le_of_lt (fscaled_lt f u v h hv)
  · exact Nat.le_refl _

theorem fscaled_inj (f : FloatFmt) (u v : Nat) (hu : u ≤ f.infBits) (hv : v ≤ f.infBits)
    (h : fscaled f u = fscaled f v) : u = v := by
  rcases Nat.lt_trichotomy u v with h1 | h1 | h1
  · exact absurd h (Nat.ne_of_lt (fscaled_lt f u v h1 hv))
  · exact h1
  · exact absurd h.symm (Nat.ne_of_lt (fscaled_lt f v u h1 hu))

end C03
end Scpi
