/-
`Msg.specUnit` (Scpi/Spec/MsgAst.lean) is what the loop of `run_from` does with one accepted
unit: `execute`, then `onError` iff the outcome is an error (`specUnit_eq_execute`).
-/
import Scpi.Spec.MsgAst
import Scpi.Proofs.RunSteps
import Scpi.Proofs.Execute

namespace Scpi
namespace Msg

theorem respond_eq_reply (q : Bool) (w : Writer) (resp : Resp) :
    respond q w resp =
      match reply q w resp with
      | (w', .ok ()) => (w', .ok)
      | (w', .error e) => (w', .err e) := by
  unfold respond reply
  rcases w.writeResp resp with ⟨w', (e | ⟨⟨⟩⟩)⟩
  · rfl
  · cases q with
    | false => rfl
    | true =>
      simp only [if_true]
      rcases w'.call (.direct [10]) with ⟨w'', (e | ⟨⟨⟩⟩)⟩ <;> rfl

section
variable {σ : Type} {I : Iface σ} {node : Node} {q : Bool} {args : List Value} {w : Writer} {s : σ}
  {c : Cmd σ}

theorem specUnit_no_slot (h : slotCmd I node q = none) :
    specUnit I node q args w s = (w, I.onError s (.std .UndefinedHeader)) := by
  simp only [specUnit, h]

theorem specUnit_arity (h : slotCmd I node q = some c) (hl : args.length ≠ c.argTys.length) :
    specUnit I node q args w s = (w, I.onError s (.std .UnexpectedNumberOfParameters)) := by
  simp only [specUnit, h, ne_eq, hl, not_false_eq_true, if_true]

theorem specUnit_conversion (h : slotCmd I node q = some c) (hl : args.length = c.argTys.length)
    {e : Err} (hc : convertAll c.argTys args = .error e) :
    specUnit I node q args w s = (w, I.onError s e) := by
  simp only [specUnit, h, ne_eq, hl, not_true_eq_false, if_false, hc]

theorem specUnit_called (h : slotCmd I node q = some c) (hl : args.length = c.argTys.length)
    {tvs : List TVal} (hc : convertAll c.argTys args = .ok tvs) :
    specUnit I node q args w s =
      match c.handler s tvs with
      | (s', .error e) => (w, I.onError s' e)
      | (s', .ok resp) =>
        match reply q w resp with
        | (w', .error e) => (w', I.onError s' e)
        | (w', .ok ()) => (w', s') := by
  simp only [specUnit, h, ne_eq, hl, not_true_eq_false, if_false, hc]
  rfl

end

theorem convertArgs_iff_convertAll {tys : List Ty} {args : List Value}
    (hl : args.length = tys.length) :
    (∀ tvs, convertArgs tys args = .ok tvs ↔ convertAll tys args = .ok tvs) ∧
    (∀ e, convertArgs tys args = .error (.inl e) ↔ convertAll tys args = .error e) := by
  rw [convertArgs_eq_convertAll tys args (Nat.le_of_eq hl.symm)]
  cases convertAll tys args <;>
    simp only [reduceCtorEq, Except.ok.injEq, Except.error.injEq, Sum.inl.injEq, implies_true,
      and_self]

theorem specUnit_eq_execute {σ : Type} (I : Iface σ) (call : CommandCall) (w : Writer) (s : σ) :
    specUnit I call.node call.query call.args w s =
      ((execute I call w s).2.1,
       reportExec I (execute I call w s).1 (execute I call w s).2.2) := by
  -- the cases speak of `resolveCmd I call`, which `slotCmd I call.node call.query` unfolds to
  refine execute_cases I call w s (motive := fun r =>
    specUnit I call.node call.query call.args w s = (r.2.1, reportExec I r.1 r.2.2)) ?_ ?_ ?_ ?_ ?_
  · exact specUnit_no_slot
  · exact fun _ => specUnit_arity
  · intro c e hr hl hca
    exact specUnit_conversion hr hl (((convertArgs_iff_convertAll hl).2 e).1 hca)
  · intro c tvs s' e hr hl hca hh
    rw [specUnit_called hr hl (((convertArgs_iff_convertAll hl).1 tvs).1 hca), hh]
    rfl
  · intro c tvs s' resp hr hl hca hh
    rw [specUnit_called hr hl (((convertArgs_iff_convertAll hl).1 tvs).1 hca), hh,
      respond_eq_reply]
    dsimp only
    rcases reply call.query w resp with ⟨w', (e | ⟨⟨⟩⟩)⟩ <;> rfl

end Msg
end Scpi
