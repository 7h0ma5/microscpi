/-
Two bridges between the float → text side (`decodeFinite`, the input of the Dragon digit
generation) and the text → float side (`roundRat`), both on the grid `fscaled`.  Every rational
between the two midpoints around the pattern `b`, end points only for even `b`, rounds to `b`
(`roundRat_of_between`).  The interval `flt2dec::decode` hands to Dragon is exactly that midpoint
interval; only for the least normal number, whose lower neighbour is as far away as the upper one,
it begins above the lower midpoint (`decode_interval`).  `decode_round` puts the two together.
-/
import Scpi.Proofs.ConvDec

namespace Scpi

namespace Dragon
open C03

theorem roundRat_of_between (f : FloatFmt) (hm : 1 ≤ f.mbits) (he : 2 ≤ f.ebits) (b : Nat)
    (hb0 : 0 < b) (hb : b < f.infBits) (n d : Nat) (hd : 0 < d)
    (hlo : (fscaled f (b - 1) + fscaled f b) * d ≤ 2 * (n * funitDen f))
    (hhi : 2 * (n * funitDen f) ≤ (fscaled f b + fscaled f (b + 1)) * d)
    (hodd : b % 2 = 1 →
      (fscaled f (b - 1) + fscaled f b) * d < 2 * (n * funitDen f) ∧
      2 * (n * funitDen f) < (fscaled f b + fscaled f (b + 1)) * d) :
    roundRat f n d = b := by
  apply Nat.le_antisymm
  · -- at most `b`: below the upper midpoint, or on it with `b` even
    refine (roundRat_le_iff f hm he n d hd b hb).mpr ?_
    by_cases hev : b % 2 = 1
    · exact Or.inl (hodd hev).2
    · exact (Nat.lt_or_eq_of_le hhi).imp_right fun h => ⟨h, by omega⟩
  · -- not at most `b - 1`: that would need `n/d` below the lower midpoint, or on it with `b` odd
    have h1 := roundRat_le_iff f hm he n d hd (b - 1) (Nat.lt_of_le_of_lt (Nat.sub_le b 1) hb)
    rw [Nat.sub_add_cancel hb0] at h1
    refine Nat.le_of_pred_lt (Nat.lt_of_not_le fun h => ?_)
    rcases h1.mp h with h | ⟨h, hev⟩
    · exact Nat.lt_irrefl _ (Nat.lt_of_lt_of_le h hlo)
    · exact Nat.ne_of_lt (hodd (by omega)).1 h.symm

/-- The lower end of the rounding interval of `X`, whose lower neighbour `A` is `v` away, in
quarter units of size `S`. -/
theorem interval_lo {X A S v mant : Nat} (h4 : 4 * X = mant * S) (hv : S ≤ 2 * v)
    (hdn : X = A + v) : 2 * (A + X) ≤ (mant - 1) * S := by
  rw [Nat.sub_mul, Nat.one_mul]
  omega

theorem interval_hi {X C S u mant plus : Nat} (h4 : 4 * X = mant * S) (hpl : plus * S = 2 * u)
    (hup : C = X + u) : (mant + plus) * S = 2 * (X + C) := by
  rw [Nat.add_mul]
  omega

theorem decodeFinite_sub (f : FloatFmt) (b : Nat) (hE : f.expOf b = 0) :
    decodeFinite f b = (f.fracOf b * 2, 1, 1, -((f.bias + f.mbits : Nat) : Int), true) := by
  simp [decodeFinite, hE]

theorem decodeFinite_pow (f : FloatFmt) (b : Nat) (hE : f.expOf b ≠ 0) (hF : f.fracOf b = 0) :
    decodeFinite f b = (2 ^ f.mbits * 4, 1, 2,
      (f.expOf b : Int) - ((f.bias + f.mbits : Nat) : Int) - 2, 2 ^ f.mbits % 2 == 0) := by
  simp [decodeFinite, hE, hF]

theorem decodeFinite_mid (f : FloatFmt) (b : Nat) (hE : f.expOf b ≠ 0) (hF : f.fracOf b ≠ 0) :
    decodeFinite f b = ((f.fracOf b + 2 ^ f.mbits) * 2, 1, 1,
      (f.expOf b : Int) - ((f.bias + f.mbits : Nat) : Int) - 1,
      (f.fracOf b + 2 ^ f.mbits) % 2 == 0) := by
  simp [decodeFinite, hE, hF]

/-- What `decodeFinite` returns, on the grid in quarter units (`4 · fscaled b = mant · 2^s`): the
interval `[(mant-1)·2^s, (mant+plus)·2^s]` ends at the upper midpoint and begins at the lower one
(above it for the least normal number). -/
theorem decode_interval (f : FloatFmt) (hm : 1 ≤ f.mbits) (he : 2 ≤ f.ebits) (b : Nat)
    (hb0 : 0 < b) (hb : b < f.infBits) :
    ∃ (mant plus s : Nat) (exp : Int) (incl : Bool),
      decodeFinite f b = (mant, 1, plus, exp, incl) ∧
      2 * (fscaled f (b - 1) + fscaled f b) ≤ (mant - 1) * 2 ^ s ∧
      (mant + plus) * 2 ^ s = 2 * (fscaled f b + fscaled f (b + 1)) ∧
      (b % 2 = 1 →
        incl = false ∨ exp = -((f.bias + f.mbits : Nat) : Int) ∧ plus = 1 ∧ mant % 2 = 0) ∧
      (s : Int) = exp + ((f.bias + f.mbits : Nat) : Int) + 1 ∧
      2 ≤ mant ∧ 1 ≤ plus ∧ mant + plus ≤ 2 ^ (f.mbits + 3) ∧
      -((f.bias + f.mbits : Nat) : Int) - 1 ≤ exp ∧ exp + f.mbits + 1 ≤ f.bias := by
  obtain ⟨c, rfl⟩ : ∃ c, b = c + 1 := ⟨b - 1, (Nat.sub_add_cancel hb0).symm⟩
  obtain ⟨hbias, hb1⟩ := expMax_eq f he
  have hM2 := two_le_pow_mbits f hm
  have hF := fracOf_lt f (c + 1)
  have hE := expOf_lt f _ hb
  -- the neighbours are one unit in the last place away (of `c` resp. of `c + 1`)
  have hup := fscaled_succ f (c + 1) hb
  have hdn := fscaled_succ f c (Nat.lt_of_succ_lt hb)
  rw [Nat.add_sub_cancel, Nat.pow_add 2 f.mbits 3]
  by_cases hE0 : f.expOf (c + 1) = 0
  · -- sub-normal
    have h4 : 4 * fscaled f (c + 1) = f.fracOf (c + 1) * 2 * 2 ^ 1 := by
      rw [fscaled_eq_gridVal, hE0, gridVal_zero, Nat.mul_comm, Nat.mul_assoc]
    have hv : 2 ^ 1 ≤ 2 * 2 ^ (f.expOf c - 1) := Nat.mul_le_mul_left 2 (Nat.two_pow_pos _)
    -- (`hfe`: the fraction field is `c + 1`, so the mantissa is at least two)
    have hfe := expOf_mul_add_fracOf f _ (Nat.le_of_lt hb)
    rw [hE0] at hup hfe
    refine ⟨_, 1, 1, _, true, decodeFinite_sub f _ hE0, interval_lo h4 hv hdn,
      interval_hi h4 rfl hup, fun _ => Or.inr ⟨rfl, rfl, Nat.mul_mod_left _ 2⟩, ?_⟩
    clear hup hdn h4 hv hb
    omega
  · obtain ⟨E, hE1⟩ := Nat.exists_eq_add_one_of_ne_zero hE0
    have hfs : fscaled f (c + 1) = (2 ^ f.mbits + f.fracOf (c + 1)) * 2 ^ E := by
      rw [fscaled_eq_gridVal, hE1, gridVal_succ]
    rw [hE1, Nat.add_sub_cancel] at hup
    by_cases hF0 : f.fracOf (c + 1) = 0
    · -- first pattern of a binade: the lower neighbour is in the binade below
      have hc := expOf_succ_carry f c (Nat.lt_of_succ_lt hb) hF0
      rw [show f.expOf c = E from Nat.succ.inj (hc.symm.trans hE1)] at hdn
      have h4 : 4 * fscaled f (c + 1) = 2 ^ f.mbits * 4 * 2 ^ E := by
        rw [hfs, hF0, Nat.add_zero, Nat.mul_comm 4, Nat.mul_right_comm]
      have hv : 2 ^ E ≤ 2 * 2 ^ (E - 1) := by
        cases E with
        | zero => decide
        | succ E => exact Nat.le_of_eq Nat.pow_succ'
      refine ⟨_, 2, E, _, _, decodeFinite_pow f _ hE0 hF0, interval_lo h4 hv hdn,
        interval_hi h4 rfl hup, fun h => ?_, ?_⟩
      · rw [← fracOf_mod_two f hm, hF0] at h
        exact absurd h (by decide)
      · clear hup hdn h4 hv hfs hb hc
        omega
    · have hc := expOf_succ_same f c (Nat.lt_of_succ_lt hb) hF0
      rw [← hc, hE1, Nat.add_sub_cancel] at hdn
      have h4 : 4 * fscaled f (c + 1) = (f.fracOf (c + 1) + 2 ^ f.mbits) * 2 * 2 ^ (E + 1) := by
        rw [hfs, Nat.pow_succ, Nat.mul_mul_mul_comm, Nat.mul_comm 4, Nat.add_comm]
      have hpl : 1 * 2 ^ (E + 1) = 2 * 2 ^ E := by rw [Nat.one_mul, Nat.pow_succ']
      refine ⟨_, 1, E + 1, _, _, decodeFinite_mid f _ hE0 hF0,
        interval_lo h4 (Nat.le_of_eq Nat.pow_succ') hdn, interval_hi h4 hpl hup,
        fun h => Or.inl (beq_false_of_ne ?_), ?_⟩
      · rw [Nat.add_mod, fracOf_mod_two f hm, h, Nat.two_pow_mod_two_eq_zero.2 hm]
        decide
      · clear hup hdn h4 hpl hfs hb hc
        omega

theorem exp2_balance {s B : Nat} {exp : Int} (hB : 1 ≤ B) (hs : (s : Int) = exp + B + 1) :
    exp.toNat + (B - 1 + 2) = s + (-exp).toNat := by
  have := Int.toNat_sub_toNat_neg exp
  omega

/-- What `decode` hands to Dragon rounds back: `roundRat` takes every `n/d` in
`[(mant - 1)·2^exp, (mant + plus)·2^exp]`, end points only for even `b`, to `b`.  Cross-multiplied,
with the sign of `exp` absorbed by truncation. -/
theorem decode_round (f : FloatFmt) (hm : 1 ≤ f.mbits) (he : 2 ≤ f.ebits) (b : Nat)
    (hb0 : 0 < b) (hb : b < f.infBits) :
    ∃ (mant plus : Nat) (exp : Int) (incl : Bool),
      decodeFinite f b = (mant, 1, plus, exp, incl) ∧
      (b % 2 = 1 →
        incl = false ∨ exp = -((f.bias + f.mbits : Nat) : Int) ∧ plus = 1 ∧ mant % 2 = 0) ∧
      (∀ n d, 0 < d →
        (mant - 1) * 2 ^ exp.toNat * d ≤ n * 2 ^ (-exp).toNat →
        n * 2 ^ (-exp).toNat ≤ (mant + plus) * 2 ^ exp.toNat * d →
        (b % 2 = 1 → (mant - 1) * 2 ^ exp.toNat * d < n * 2 ^ (-exp).toNat ∧
          n * 2 ^ (-exp).toNat < (mant + plus) * 2 ^ exp.toNat * d) →
        roundRat f n d = b) ∧
      2 ≤ mant ∧ 1 ≤ plus ∧ mant + plus ≤ 2 ^ (f.mbits + 3) ∧
      -((f.bias + f.mbits : Nat) : Int) - 1 ≤ exp ∧ exp + f.mbits + 1 ≤ f.bias := by
  obtain ⟨mant, plus, s, exp, incl, hdec, hlo, hhi, hsub, hs, hbounds⟩ :=
    decode_interval f hm he b hb0 hb
  refine ⟨mant, plus, exp, incl, hdec, hsub, fun n d hd hL hH hS => ?_, hbounds⟩
  have hbias : 1 ≤ f.bias := (expMax_eq f he).2
  -- `2^s = 4 · funitDen · 2^exp`
  have e2 := exp2_balance (Nat.le_add_right_of_le hbias) hs
  have e2' : (-exp).toNat + s = (f.bias + f.mbits - 1 + 2) + exp.toNat := by
    rw [Nat.add_comm, ← e2, Nat.add_comm]
  have hlo' := Nat.mul_le_mul_right d hlo
  have hhi' := congrArg (· * d) hhi
  rw [Nat.mul_assoc 2, Nat.mul_right_comm _ (2 ^ s) d] at hlo' hhi'
  have h4 : n * 2 ^ (f.bias + f.mbits - 1 + 2) = 4 * (n * funitDen f) := by
    rw [Nat.pow_add, ← Nat.mul_assoc, Nat.mul_comm]
    rfl
  rw [Nat.mul_right_comm, pow_shift_le_iff (by decide) e2, h4] at hL
  rw [Nat.mul_right_comm _ _ d, pow_shift_le_iff (by decide) e2', h4] at hH
  rw [Nat.mul_right_comm _ _ d, Nat.mul_right_comm _ _ d, pow_shift_lt_iff (by decide) e2,
    pow_shift_lt_iff (by decide) e2', h4] at hS
  clear hs e2 e2' h4 hsub hbounds hdec
  apply roundRat_of_between f hm he b hb0 hb n d hd
  · omega
  · omega
  · intro h
    have := hS h
    omega

/-- Non-vacuity of `roundRat_of_between`: binary32 `1.0` (pattern `0x3F800000`) with `1/1`, and
the odd pattern `0x3F800001` with `8388609/8388608` strictly inside. -/
example : roundRat fmt32 1 1 = 1065353216 :=
  roundRat_of_between fmt32 (by decide) (by decide) 1065353216 (by decide) (by decide) 1 1
    (by decide) (by decide) (by decide) (by decide)

example : roundRat fmt32 8388609 8388608 = 1065353217 :=
  roundRat_of_between fmt32 (by decide) (by decide) 1065353217 (by decide) (by decide)
    8388609 8388608 (by decide) (by decide) (by decide) (by decide)

/-- Non-vacuity of `decode_interval`: binary32 `1.0` is the `plus = 2` case. -/
example : decodeFinite fmt32 1065353216 = (33554432, 1, 2, -25, true) := by decide +kernel

end Dragon
end Scpi
