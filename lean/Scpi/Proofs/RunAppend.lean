/-
Runs on `x ++ y` where `x` ends with a newline.  A step that goes on is the same step whatever
follows (`unitStep_next_append`), so the run on `x ++ y` is the run on `x` continued on what `x`
left unparsed followed by `y` (`runFrom_split_at_nl`); when `x` is consumed entirely the path is
the root again (T2.2 / T6.2).  The finality of `parse` that this needs, `ParseFinalOk` and `ParseFinalErr`,
is a hypothesis here; `Props/C02Isolation.lean` discharges it from the finality proofs of C12.
-/
import Scpi.Proofs.RunSteps
import Scpi.Proofs.HeaderWalk
import Scpi.Proofs.ExtComb

namespace Scpi

def ParseFinalOk : Prop :=
  ∀ (root h : Node) (x y r : Bytes) (c : Option CommandCall),
    parse root h x = .ok r c → parse root h (x ++ y) = .ok (r ++ y) c

def ParseFinalErr : Prop :=
  ∀ (root h : Node) (x y : Bytes), x.getLast? = some 10 →
    ((∃ e, parse root h x = .soft e) ∨ (∃ e, parse root h x = .fatal e)) →
    parse root h (x ++ y) = parse root h x

def EndsNl (input : Bytes) : Prop := ∀ pre b, input = pre ++ [b] → b = 10

theorem EndsNl.suffix {i input : Bytes} (h : EndsNl input) (hs : i <:+ input) : EndsNl i := by
  obtain ⟨p, rfl⟩ := hs
  intro pre b e
  exact h (p ++ pre) b (by rw [e, List.append_assoc])

theorem parse_all_terminated (root h : Node) (x : Bytes) (call : CommandCall)
    (hx : x.getLast? = some 10) (hp : parse root h x = .ok [] (some call)) :
    call.terminated = true := by
  have hs := (parse_call root h x [] call hp).2.2
  have := suffix_getLast hs (by simp) hx
  simp only [List.getLast?_singleton, Option.some.injEq] at this
  by_cases ht : call.terminated = true
  · exact ht
  · simp [ht] at this

/-- Only an unfinished unit stops here (the newline lies inside a string or block): a rejected
one has the newline to go on from. -/
theorem unitStep_stop_of_nl {σ : Type} (I : Iface σ) (c : Cfg σ)
    (hx : c.input.getLast? = some 10) (o : RunOut σ) (h : unitStep I c = .stop o) :
    o = { rest := c.input, header := c.header, w := c.w, s := c.s } :=
  unitStep_cases I c (motive := fun st => st = .stop o → o = _)
    (fun _ h => (Step.stop.inj h).symm)
    (fun _ _ ha => absurd (List.mem_of_getLast? hx) (afterNewline_eq_none_iff.1 ha))
    (fun _ _ _ _ => nofun) (fun _ _ => nofun) (fun _ _ _ => nofun) h

theorem unitStep_next_root {σ : Type} (I : Iface σ) (c c' : Cfg σ)
    (hx : c.input.getLast? = some 10) (h : unitStep I c = .next c') (hi : c'.input = []) :
    c'.header = I.root := by
  refine unitStep_cases I c (motive := fun st => st = .next c' → _) (fun _ => nofun)
    (fun _ _ _ => nofun) (fun _ _ _ _ h => Step.next.inj h ▸ rfl)
    (fun _ _ h => Step.next.inj h ▸ rfl) ?_ h
  intro i call hp h
  cases h
  -- the unit read up to the end of the input, so it was ended by the final newline
  cases (hi : i = [])
  exact headerAfter_of_terminated (parse_all_terminated I.root c.header c.input call hx hp)

theorem runFrom_header_root_of_nl {σ : Type} (I : Iface σ) (c : Cfg σ) :
    (c.input = [] → c.header = I.root) → (c.input ≠ [] → c.input.getLast? = some 10) →
    (runFrom I c.header c.input c.w c.s).rest = [] →
    (runFrom I c.header c.input c.w c.s).header = I.root :=
  runFrom_induct I (motive := fun c o => (c.input = [] → c.header = I.root) →
      (c.input ≠ [] → c.input.getLast? = some 10) → o.rest = [] → o.header = I.root)
    (fun _ h0 hr _ _ => hr h0)
    (fun c o hne hs _ _ hr => absurd ((unitStep_stop_no_crash I c o hs).2.1 ▸ hr) hne)
    (fun c c' _ hne hs ih _ hx => ih (unitStep_next_root I c c' (hx hne) hs)
      (fun h => suffix_getLast (unitStep_next_lt I c c' hs).2 h (hx hne))) c

section
variable {σ : Type} (I : Iface σ) (hOk : ParseFinalOk) (hErr : ParseFinalErr)
include hOk hErr

theorem unitStep_next_append (c c' : Cfg σ) (hx : c.input.getLast? = some 10)
    (h : unitStep I c = .next c') (y : Bytes) :
    unitStep I ⟨c.header, c.input ++ y, c.w, c.s⟩ =
      .next ⟨c'.header, c'.input ++ y, c'.w, c'.s⟩ := by
  refine unitStep_cases I c (motive := fun st => st = .next c' → _) (fun _ => nofun)
    (fun _ _ _ => nofun) ?_ ?_ ?_ h
  · intro e r hf ha h
    cases h
    have hp := hErr I.root c.header c.input y hx
      (hf.elim (fun ⟨e', h, _⟩ => Or.inl ⟨e', h⟩) (fun h => Or.inr ⟨e, h⟩))
    rw [unitStep_fault I ⟨c.header, c.input ++ y, c.w, c.s⟩ e
      (hf.imp (fun ⟨e', h, he⟩ => ⟨e', hp.trans h, he⟩) hp.trans)]
    simp only [afterNewline_append _ r y ha]
  · intro i hp h
    cases h
    exact unitStep_empty_message I ⟨c.header, c.input ++ y, c.w, c.s⟩ _
      (hOk I.root c.header c.input y i none hp)
  · intro i call hp h
    cases h
    exact unitStep_call I ⟨c.header, c.input ++ y, c.w, c.s⟩ _ call
      (hOk I.root c.header c.input y i (some call) hp)

theorem runFrom_split_at_nl (c : Cfg σ) :
    (c.input ≠ [] → c.input.getLast? = some 10) →
    ∀ y, runFrom I c.header (c.input ++ y) c.w c.s =
      runFrom I (runFrom I c.header c.input c.w c.s).header
        ((runFrom I c.header c.input c.w c.s).rest ++ y)
        (runFrom I c.header c.input c.w c.s).w (runFrom I c.header c.input c.w c.s).s :=
  runFrom_induct I (motive := fun c o => (c.input ≠ [] → c.input.getLast? = some 10) →
      ∀ y, runFrom I c.header (c.input ++ y) c.w c.s = runFrom I o.header (o.rest ++ y) o.w o.s)
    (fun c h0 _ y => by rw [h0])
    (fun c o hne hs hx y => by rw [unitStep_stop_of_nl I c (hx hne) o hs])
    (fun c c' o hne hs ih hx y => by
      rw [← ih (fun h => suffix_getLast (unitStep_next_lt I c c' hs).2 h (hx hne)) y]
      exact runFrom_next (by simp [hne]) (unitStep_next_append I hOk hErr c c' (hx hne) hs y)) c

end

theorem runFrom_append_consumed {σ : Type} (I : Iface σ) (hOk : ParseFinalOk) (hErr : ParseFinalErr)
    (h : Node) (x : Bytes) (w : Writer) (s : σ)
    (hx : x.getLast? = some 10) (hrest : (runFrom I h x w s).rest = []) :
    (runFrom I h x w s).header = I.root ∧
    ∀ y, runFrom I h (x ++ y) w s =
      runFrom I I.root y (runFrom I h x w s).w (runFrom I h x w s).s := by
  have hne : x ≠ [] := by
    rintro rfl
    cases hx
  have h1 := runFrom_header_root_of_nl I ⟨h, x, w, s⟩ (fun h0 => absurd h0 hne) (fun _ => hx) hrest
  refine ⟨h1, fun y => ?_⟩
  rw [runFrom_split_at_nl I hOk hErr ⟨h, x, w, s⟩ (fun _ => hx) y, h1, hrest, List.nil_append]

end Scpi
