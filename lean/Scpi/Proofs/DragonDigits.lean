/-
C04 (float Display): the digit generation of `dragon::format_shortest` as arithmetic.  The loop
keeps `N · scale + r = 10^i · mant`, `r < scale`, with `N` the value of the `i + 1` digits taken out
so far; it stops within the fuel when `scale < 10^fuel` and `plus > 0`, and the digits, kept or
rounded up in the last place, then lie in the scaled rounding interval (`DigitsOut`).
`formatShortest_eq` removes the case distinctions on the signs of the binary exponent and of the
estimated decimal exponent, so that the loop starts from known multiples of `mant`, `minus`, `plus`.
-/
import Scpi.Spec.Numerals

namespace Scpi
namespace Dragon
open C03 (digitsValue digitsValue_nil digitsValue_cons digitsValue_append digitsValue_singleton
  digitsValue_zeros)

/-- The comparison `format_shortest` makes at an end of the rounding interval: `≤` when the
interval is inclusive, `<` when it is not. -/
def Cmp : Bool → Nat → Nat → Prop
  | true, a, b => a ≤ b
  | false, a, b => a < b

theorem cmp_iff (incl : Bool) (a b : Nat) :
    (if incl = true then decide (a ≤ b) else decide (a < b)) = true ↔ Cmp incl a b := by
  cases incl <;> simp [Cmp]

theorem Cmp.le : ∀ {incl : Bool} {a b : Nat}, Cmp incl a b → a ≤ b
  | true, _, _, h => h
  | false, _, _, h => Nat.le_of_lt h

theorem cmp_of_lt : ∀ {incl : Bool} {a b : Nat}, a < b → Cmp incl a b
  | true, _, _, h => Nat.le_of_lt h
  | false, _, _, h => h

theorem le_of_not_cmp : ∀ {incl : Bool} {a b : Nat}, ¬ Cmp incl a b → b ≤ a
  | true, _, _, h => Nat.le_of_lt (Nat.not_le.mp h)
  | false, _, _, h => Nat.not_lt.mp h

/-- What the loop returns: `r = (ds, mR, down, up)` with `ds` the `i + 1` digits and `mR` the
remainder.  `down`: the digits as they are lie inside the rounding interval; `up`: the digits
incremented in the last place do. -/
structure LoopOut (incl : Bool) (m mi pl sc i : Nat) (r : List Nat × Nat × Bool × Bool) :
    Prop where
  len : r.1.length = i + 1
  dig : ∀ d ∈ r.1, d < 10
  val : digitsValue 10 r.1 * sc + r.2.1 = 10 ^ i * m
  rem : r.2.1 < sc
  down_iff : r.2.2.1 = true ↔ Cmp incl r.2.1 (10 ^ i * mi)
  up_iff : r.2.2.2 = true ↔ Cmp incl sc (r.2.1 + 10 ^ i * pl)
  stop : r.2.2.1 = true ∨ r.2.2.2 = true
  /-- The previous round did not stop.  Inclusive mode only: there the two failed `≤` tests give
  this strict bound, in exclusive mode only `≤`.  Needed for sub-normals (`subnormal_no_tie`). -/
  early : incl = true → i = 0 ∨ 10 ^ (i - 1) * (mi + pl) < sc

/-- On entry to a round, with `j` digits `acc` so far: everything is the start value times `10^j`,
less the digits taken out. -/
structure LoopInv (incl : Bool) (m mi pl sc j M mi' pl' : Nat) (acc : List Nat) : Prop where
  len : acc.length = j
  dig : ∀ d ∈ acc, d < 10
  val : digitsValue 10 acc * (10 * sc) + M = 10 ^ j * m
  mi_eq : mi' = 10 ^ j * mi
  pl_eq : pl' = 10 ^ j * pl
  lt : M < 10 * sc
  early : incl = true → j = 0 ∨ 10 ^ (j - 1) * (mi + pl) < sc

theorem shortestLoop_succ (incl : Bool) (fuel M mi pl sc : Nat) (acc : List Nat) :
    ∃ down up, (down = true ↔ Cmp incl (M % sc) mi) ∧ (up = true ↔ Cmp incl sc (M % sc + pl)) ∧
      shortestLoop incl (fuel + 1) M mi pl sc acc =
        if (down || up) = true then (acc ++ [M / sc], M % sc, down, up)
        else shortestLoop incl fuel (M % sc * 10) (mi * 10) (pl * 10) sc (acc ++ [M / sc]) :=
  ⟨_, _, cmp_iff _ _ _, cmp_iff _ _ _, rfl⟩

/-- `pl'` grows tenfold in every round, so within `fuel - 1` further rounds it exceeds `sc`, and
then the `up` test holds whatever the remainder. -/
theorem loopOut_of_loopInv (incl : Bool) (m mi pl sc : Nat) (hsc : 0 < sc) :
    ∀ (fuel j M mi' pl' : Nat) (acc : List Nat), LoopInv incl m mi pl sc j M mi' pl' acc →
      1 ≤ fuel → sc < 10 ^ (fuel - 1) * pl' →
      ∃ i, LoopOut incl m mi pl sc i (shortestLoop incl fuel M mi' pl' sc acc) := by
  intro fuel
  induction fuel with
  | zero =>
    intro _ _ _ _ _ _ h
    omega
  | succ fuel ih =>
    intro j M mi' pl' acc ⟨len, dig, val, mi_eq, pl_eq, lt, early⟩ _ hfuel
    have hr := Nat.mod_lt M hsc
    have hd : M / sc < 10 := (Nat.div_lt_iff_lt_mul hsc).mpr (Nat.mul_comm .. ▸ lt)
    have hlen : (acc ++ [M / sc]).length = j + 1 := by rw [List.length_append, len]; rfl
    have hdig : ∀ d ∈ acc ++ [M / sc], d < 10 :=
      List.forall_mem_append.mpr ⟨dig, List.forall_mem_singleton.mpr hd⟩
    have hval : digitsValue 10 (acc ++ [M / sc]) * sc + M % sc = 10 ^ j * m := by
      rw [digitsValue_append, digitsValue_singleton, List.length_singleton, Nat.pow_one, ← val,
        Nat.add_mul, Nat.add_assoc, Nat.mul_comm (M / sc), Nat.div_add_mod, Nat.mul_assoc]
    obtain ⟨down, up, hdown, hup, heq⟩ := shortestLoop_succ incl fuel M mi' pl' sc acc
    rw [heq]
    by_cases hstop : (down || up) = true
    · rw [if_pos hstop]
      exact ⟨j, hlen, hdig, hval, hr, mi_eq ▸ hdown, pl_eq ▸ hup, Bool.or_eq_true_iff.mp hstop,
        early⟩
    · rw [if_neg hstop]
      rw [Bool.or_eq_true, not_or, hdown, hup] at hstop
      obtain ⟨hnd, hnu⟩ := hstop
      -- with one round of fuel left the `up` test holds
      obtain ⟨g, rfl⟩ : ∃ g, fuel = g + 1 := by
        cases fuel with
        | zero =>
          rw [Nat.zero_add, Nat.sub_self, Nat.pow_zero, Nat.one_mul] at hfuel
          exact absurd (cmp_of_lt (Nat.lt_add_left _ hfuel)) hnu
        | succ g => exact ⟨g, rfl⟩
      rw [Nat.add_sub_cancel, Nat.pow_succ, Nat.mul_assoc, Nat.mul_comm 10] at hfuel
      refine ih (j + 1) _ _ _ _ ⟨hlen, hdig, ?_, ?_, ?_, by omega, fun hi => Or.inr ?_⟩
        (Nat.le_add_left 1 g) hfuel
      · rw [Nat.pow_succ, Nat.mul_right_comm, ← hval, Nat.add_mul]
        congr 1
        ac_rfl
      · rw [mi_eq, Nat.pow_succ, Nat.mul_right_comm]
      · rw [pl_eq, Nat.pow_succ, Nat.mul_right_comm]
      · -- neither test held, in inclusive mode: `mi' < M % sc` and `M % sc + pl' < sc`
        rw [Nat.add_sub_cancel, Nat.mul_add, ← mi_eq, ← pl_eq]
        rw [hi] at hnd hnu
        have := Nat.not_le.mp hnd
        have := Nat.not_le.mp hnu
        omega

theorem loop_spec (incl : Bool) (fuel m mi pl sc : Nat) (hsc : 0 < sc) (hm : m < 10 * sc)
    (hpl : 0 < pl) (hfuel : sc < 10 ^ fuel) :
    ∃ i, LoopOut incl m mi pl sc i (shortestLoop incl (fuel + 1) m mi pl sc []) :=
  loopOut_of_loopInv incl m mi pl sc hsc (fuel + 1) 0 m mi pl []
    ⟨rfl, by simp, by simp [digitsValue_nil], by simp, by simp, hm, fun _ => Or.inl rfl⟩
    (Nat.le_add_left 1 fuel) (Nat.lt_of_lt_of_le hfuel (Nat.le_mul_of_pos_right _ hpl))

theorem dv_nil : digitsValue 10 [] = 0 := rfl

theorem dv_nines (k : Nat) : digitsValue 10 (List.replicate k 9) + 1 = 10 ^ k := by
  induction k with
  | zero => simp [dv_nil]
  | succ k ih =>
    rw [List.replicate_succ, digitsValue_cons, List.length_replicate, Nat.pow_succ]
    omega

theorem roundUpDigits_nines (t : Nat) :
    roundUpDigits (List.replicate (t + 1) 9) = (1 :: List.replicate t 0, true) := by
  simp [roundUpDigits]

theorem roundUpDigits_append (l : List Nat) (d t : Nat) (hd : d ≠ 9) :
    roundUpDigits (l ++ d :: List.replicate t 9) = (l ++ (d + 1) :: List.replicate t 0, false) := by
  have h : (l ++ d :: List.replicate t 9).reverse.dropWhile (· == 9) = d :: l.reverse := by
    rw [List.reverse_append, List.reverse_cons, List.reverse_replicate, List.append_assoc,
      List.dropWhile_append_of_pos (by simp), List.singleton_append,
      List.dropWhile_cons_of_neg (by simpa using hd)]
  unfold roundUpDigits
  rw [h]
  -- the number of trailing nines is recovered from the lengths
  simp only [List.reverse_cons, List.reverse_reverse, List.length_append, List.length_cons,
    List.length_replicate, List.length_reverse, List.append_assoc, List.singleton_append]
  rw [Nat.add_sub_add_left, Nat.add_sub_cancel]

theorem nines_suffix : ∀ ds : List Nat, ds ≠ [] →
    (∃ t, ds = List.replicate (t + 1) 9) ∨
      ∃ l d t, d ≠ 9 ∧ ds = l ++ d :: List.replicate t 9
  | [x], _ => by
    by_cases hx : x = 9
    · exact Or.inl ⟨0, hx ▸ rfl⟩
    · exact Or.inr ⟨[], x, 0, hx, rfl⟩
  | x :: y :: ys, _ => by
    rcases nines_suffix (y :: ys) (List.cons_ne_nil _ _) with ⟨t, h⟩ | ⟨l, d, t, hd, h⟩
    · rw [h]
      by_cases hx : x = 9
      · exact Or.inl ⟨t + 1, hx ▸ rfl⟩
      · exact Or.inr ⟨[], x, t + 1, hx, rfl⟩
    · exact Or.inr ⟨x :: l, d, t, hd, h ▸ rfl⟩

/-- The digits rounded up as `format_shortest` returns them: after a carry out of the first
digit a `0` is appended and the exponent incremented. -/
def roundedUp (ds : List Nat) (k : Int) : List Nat × Int :=
  if (roundUpDigits ds).2 = true then ((roundUpDigits ds).1 ++ [0], k + 1)
  else ((roundUpDigits ds).1, k)

/-- `k - length` is unchanged: a carry adds a digit and increments `k`. -/
theorem roundedUp_spec (ds : List Nat) (k : Int) (hne : ds ≠ []) (hd : ∀ d ∈ ds, d < 10) :
    (∀ d ∈ (roundedUp ds k).1, d < 10) ∧
    digitsValue 10 (roundedUp ds k).1 = digitsValue 10 ds + 1 ∧
    (roundedUp ds k).2 - ((roundedUp ds k).1.length : Nat) = k - (ds.length : Nat) := by
  unfold roundedUp
  rcases nines_suffix ds hne with ⟨t, rfl⟩ | ⟨l, d, t, hd9, rfl⟩
  · -- all nines: `1 0 … 0` and the extra `0`
    rw [roundUpDigits_nines, if_pos rfl]
    refine ⟨fun x hx => ?_, ?_, ?_⟩
    · simp only [List.cons_append, List.mem_cons, List.mem_append, List.mem_replicate,
        List.not_mem_nil, or_false] at hx
      omega
    · rw [List.cons_append, ← List.replicate_succ', digitsValue_cons, digitsValue_zeros,
        List.length_replicate, ← dv_nines (t + 1)]
      omega
    · simp only [List.length_append, List.length_cons, List.length_replicate, List.length_nil]
      omega
  · rw [roundUpDigits_append l d t hd9, if_neg Bool.false_ne_true]
    have hdl : d < 10 := hd d (by simp)
    refine ⟨fun x hx => ?_, ?_, ?_⟩
    · simp only [List.mem_append, List.mem_cons, List.mem_replicate] at hx
      rcases hx with hx | rfl | hx
      · exact hd x (List.mem_append_left _ hx)
      · omega
      · omega
    · rw [digitsValue_append, digitsValue_append, digitsValue_cons, digitsValue_cons,
        digitsValue_zeros, List.length_cons, List.length_cons, List.length_replicate,
        List.length_replicate, ← dv_nines t, Nat.add_mul d 1]
      omega
    · simp only [List.length_append, List.length_cons, List.length_replicate]

theorem up_in_interval {incl : Bool} {P m mi pl N mR sc : Nat} (val : N * sc + mR = P * m)
    (rem : mR < sc) (hup : Cmp incl sc (mR + P * pl)) :
    Cmp incl (P * (m - mi)) ((N + 1) * sc) ∧ Cmp incl ((N + 1) * sc) (P * (m + pl)) := by
  rw [Nat.mul_sub, Nat.mul_add, Nat.add_mul, Nat.one_mul]
  cases incl
  · simp only [Cmp] at hup ⊢
    omega
  · simp only [Cmp] at hup ⊢
    omega

theorem down_in_interval {incl : Bool} {P m mi pl N mR sc : Nat} (val : N * sc + mR = P * m)
    (hdown : Cmp incl mR (P * mi)) (hmi : mi ≤ m) (hpl : 0 < P * pl) :
    Cmp incl (P * (m - mi)) (N * sc) ∧ Cmp incl (N * sc) (P * (m + pl)) := by
  have := Nat.mul_le_mul_left P hmi
  rw [Nat.mul_sub, Nat.mul_add]
  cases incl
  · simp only [Cmp] at hdown ⊢
    omega
  · simp only [Cmp] at hdown ⊢
    omega

/-- The tail of `format_shortest`: keep the digits, or round them up. -/
def selectDigits (sc : Nat) (k : Int) (r : List Nat × Nat × Bool × Bool) : List Nat × Int :=
  if (r.2.2.2 && (!r.2.2.1 || decide (sc ≤ r.2.1 * 2))) = true then roundedUp r.1 k else (r.1, k)

/-- What is known of the digits and exponent `out` that `format_shortest` returns when the loop,
started from `m`, `mi`, `pl`, `sc` with exponent `k`, produced `i + 1` digits. -/
structure DigitsOut (incl : Bool) (m mi pl sc : Nat) (k : Int) (i : Nat) (out : List Nat × Int) :
    Prop where
  ne : out.1 ≠ []
  dig : ∀ d ∈ out.1, d < 10
  kout : out.2 - (out.1.length : Nat) = k - ((i + 1 : Nat) : Int)
  lo : Cmp incl (10 ^ i * (m - mi)) (digitsValue 10 out.1 * sc)
  hi : Cmp incl (digitsValue 10 out.1 * sc) (10 ^ i * (m + pl))
  early : incl = true → i = 0 ∨ 10 ^ (i - 1) * (mi + pl) < sc

theorem select_spec {incl : Bool} {m mi pl sc i : Nat} {r : List Nat × Nat × Bool × Bool}
    (k : Int) (h : LoopOut incl m mi pl sc i r) (hmi : mi ≤ m) (hpl : 0 < pl) :
    DigitsOut incl m mi pl sc k i (selectDigits sc k r) := by
  obtain ⟨ds, mR, down, up⟩ := r
  obtain ⟨len, dig, val, rem, down_iff, up_iff, stop, early⟩ := h
  simp only at len dig val rem down_iff up_iff stop early
  have ne : ds ≠ [] := List.ne_nil_of_length_pos (by omega)
  unfold selectDigits
  simp only []
  by_cases hsel : (up && (!down || decide (sc ≤ mR * 2))) = true
  · rw [if_pos hsel]
    simp only [Bool.and_eq_true, Bool.or_eq_true, Bool.not_eq_true', decide_eq_true_eq] at hsel
    obtain ⟨hdig, hv, hk⟩ := roundedUp_spec ds k ne dig
    obtain ⟨lo, hi⟩ := up_in_interval (mi := mi) val rem (up_iff.mp hsel.1)
    rw [← hv] at lo hi
    refine ⟨fun h0 => ?_, hdig, by rw [hk, len], lo, hi, early⟩
    rw [h0, dv_nil] at hv
    omega
  · rw [if_neg hsel]
    simp only [Bool.and_eq_true, Bool.or_eq_true, Bool.not_eq_true', decide_eq_true_eq, not_and,
      not_or] at hsel
    -- the digits are kept only if `down` holds: the loop stopped on `down` or `up`, and `up`
    -- without `down` rounds up
    have hdown : down = true := by
      rcases stop with h | h
      · exact h
      · simpa using (hsel h).1
    obtain ⟨lo, hi⟩ := down_in_interval val (down_iff.mp hdown) hmi
      (Nat.mul_pos (Nat.pow_pos (by decide)) hpl)
    exact ⟨ne, dig, by rw [len], lo, hi, early⟩

/-- `estimate_scaling_factor(mant + plus, exp)`. -/
def estimateK (mant0 plus0 : Nat) (exp : Int) : Int :=
  ((((mant0 + plus0 - 1).log2 + 1 : Nat) : Int) + exp) * 1292913986 / 4294967296

/-- The common factor of `mant`, `minus`, `plus` after scaling by `2^exp` and `10^(-k0)`. -/
def numFactor (exp k0 : Int) : Nat := 2 ^ exp.toNat * 10 ^ (-k0).toNat

/-- The scale (denominator) after scaling by `2^exp` and `10^(-k0)`. -/
def scaleOf (exp k0 : Int) : Nat := 2 ^ (-exp).toNat * 10 ^ k0.toNat

/-- `0` when the fix-up test `scale ≤ mant + plus` (`<` in exclusive mode) holds (`k = k0 + 1`);
`1` when it fails: then the estimate `k0` was the true `k` and everything is multiplied by ten. -/
def fixG (incl : Bool) (sc m pl : Nat) : Nat :=
  if (if incl = true then decide (sc ≤ m + pl) else decide (sc < m + pl)) = true then 0 else 1

/-- `formatShortest` after `decodeFinite`, uniformly. -/
def formatCore (mant0 minus0 plus0 : Nat) (exp : Int) (incl : Bool) : List Nat × Int :=
  let k0 := estimateK mant0 plus0 exp
  let c2 := numFactor exp k0
  let sc := scaleOf exp k0
  let g : Nat := fixG incl sc (mant0 * c2) (plus0 * c2)
  selectDigits sc (k0 + 1 - g)
    (shortestLoop incl 2000 (mant0 * (c2 * 10 ^ g)) (minus0 * (c2 * 10 ^ g))
      (plus0 * (c2 * 10 ^ g)) sc [])

/-- The two scaling steps and the fix-up of `format_shortest` without their case distinctions:
a negative exponent goes to the scale, a positive one to the numerators (`toNat` truncates at
`0`).  Rewriting with these BEFORE the `let`-tuples are substituted keeps the term small. -/
theorem scaleTwo_eq (a b c : Nat) (e : Int) :
    (if e < 0 then (a, b, c, 2 ^ (-e).toNat)
      else (a * 2 ^ e.toNat, b * 2 ^ e.toNat, c * 2 ^ e.toNat, 1)) =
    (a * 2 ^ e.toNat, b * 2 ^ e.toNat, c * 2 ^ e.toNat, 2 ^ (-e).toNat) := by
  split
  · rw [show e.toNat = 0 by omega, Nat.pow_zero, Nat.mul_one, Nat.mul_one, Nat.mul_one]
  · rw [show (-e).toNat = 0 by omega, Nat.pow_zero]

theorem scaleTen_eq (a b c s : Nat) (k : Int) :
    (if k ≥ 0 then (a, b, c, s * 10 ^ k.toNat)
      else (a * 10 ^ (-k).toNat, b * 10 ^ (-k).toNat, c * 10 ^ (-k).toNat, s)) =
    (a * 10 ^ (-k).toNat, b * 10 ^ (-k).toNat, c * 10 ^ (-k).toNat, s * 10 ^ k.toNat) := by
  split
  · rw [show (-k).toNat = 0 by omega, Nat.pow_zero, Nat.mul_one, Nat.mul_one, Nat.mul_one]
  · rw [show k.toNat = 0 by omega, Nat.pow_zero, Nat.mul_one]

theorem fixup_eq (h : Bool) (k : Int) (m mi pl : Nat) :
    (if h = true then (k + 1, m, mi, pl) else (k, m * 10, mi * 10, pl * 10)) =
    (k + 1 - ((if h = true then 0 else 1 : Nat) : Int), m * 10 ^ (if h = true then 0 else 1),
      mi * 10 ^ (if h = true then 0 else 1), pl * 10 ^ (if h = true then 0 else 1)) := by
  cases h <;> simp

theorem formatShortest_eq (f : FloatFmt) (bits : Nat) :
    formatShortest f bits =
      formatCore (decodeFinite f bits).1 (decodeFinite f bits).2.1 (decodeFinite f bits).2.2.1
        (decodeFinite f bits).2.2.2.1 (decodeFinite f bits).2.2.2.2 := by
  unfold formatShortest formatCore fixG numFactor scaleOf estimateK selectDigits roundedUp
  generalize decodeFinite f bits = dec
  obtain ⟨mant0, minus0, plus0, exp, incl⟩ := dec
  simp only [scaleTwo_eq, scaleTen_eq, fixup_eq]
  simp only [Nat.mul_assoc]

theorem numFactor_pos (exp k0 : Int) : 0 < numFactor exp k0 :=
  Nat.mul_pos (Nat.two_pow_pos _) (Nat.pow_pos (by decide))

theorem scaleOf_pos (exp k0 : Int) : 0 < scaleOf exp k0 :=
  Nat.mul_pos (Nat.two_pow_pos _) (Nat.pow_pos (by decide))

theorem scaleOf_lt {exp k0 : Int} {n : Nat} (h : (-exp).toNat + k0.toNat < n) :
    scaleOf exp k0 < 10 ^ n :=
  calc scaleOf exp k0 ≤ 10 ^ (-exp).toNat * 10 ^ k0.toNat :=
        Nat.mul_le_mul_right _ (Nat.pow_le_pow_left (by decide) _)
    _ = 10 ^ ((-exp).toNat + k0.toNat) := (Nat.pow_add ..).symm
    _ < 10 ^ n := Nat.pow_lt_pow_right (by decide) h

/-- `hest` is what the estimate `k0` provides; the second conjunct (the first digit is below ten
also after the fix-up) is what the sub-normal case needs later. -/
theorem formatCore_spec {mant0 minus0 plus0 : Nat} {exp k0 : Int} (incl : Bool)
    (hk0 : estimateK mant0 plus0 exp = k0) (hmi : minus0 ≤ mant0) (hpl : 0 < plus0)
    (hest : mant0 * numFactor exp k0 < 10 * scaleOf exp k0) (hsc : scaleOf exp k0 < 10 ^ 1999) :
    ∃ i g, DigitsOut incl (mant0 * (numFactor exp k0 * 10 ^ g))
        (minus0 * (numFactor exp k0 * 10 ^ g)) (plus0 * (numFactor exp k0 * 10 ^ g))
        (scaleOf exp k0) (k0 + 1 - (g : Nat)) i (formatCore mant0 minus0 plus0 exp incl) ∧
      mant0 * (numFactor exp k0 * 10 ^ g) < 10 * scaleOf exp k0 := by
  unfold formatCore
  simp only [hk0]
  have hc2 := numFactor_pos exp k0
  have hscp := scaleOf_pos exp k0
  generalize numFactor exp k0 = c2 at *
  generalize scaleOf exp k0 = sc at *
  -- the fix-up: where the test fails, `mant0·c2 + plus0·c2 ≤ sc` leaves room for the factor ten
  have hg : mant0 * (c2 * 10 ^ fixG incl sc (mant0 * c2) (plus0 * c2)) < 10 * sc := by
    unfold fixG
    by_cases hh : Cmp incl sc (mant0 * c2 + plus0 * c2)
    · rw [if_pos ((cmp_iff _ _ _).mpr hh), Nat.pow_zero, Nat.mul_one]
      exact hest
    · rw [if_neg (mt (cmp_iff _ _ _).mp hh), Nat.pow_one, ← Nat.mul_assoc]
      have := le_of_not_cmp hh
      have := Nat.mul_pos hpl hc2
      omega
  generalize fixG incl sc (mant0 * c2) (plus0 * c2) = g at hg ⊢
  have hcpos : 0 < c2 * 10 ^ g := Nat.mul_pos hc2 (Nat.pow_pos (by decide))
  obtain ⟨i, hloop⟩ :=
    loop_spec incl 1999 _ (minus0 * (c2 * 10 ^ g)) _ sc hscp hg (Nat.mul_pos hpl hcpos) hsc
  exact ⟨i, g, select_spec _ hloop (Nat.mul_le_mul_right _ hmi) (Nat.mul_pos hpl hcpos), hg⟩

end Dragon
end Scpi
