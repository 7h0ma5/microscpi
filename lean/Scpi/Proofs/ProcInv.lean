/-
Offsets invariant of `process` and absence of crashes (C05, process part).

`IInv` (inner loop) and `PInv` (top of the outer loop) order the two offsets inside the
buffer.  A step keeps them and moves the measure the fuel was chosen for, so the loop rules give
that no slice is out of range, no subtraction underflows and the fuel is never used up.
`Frame` says what the inner loop leaves alone.
-/
import Scpi.Proofs.ProcView

namespace Scpi
namespace Proc

variable {σ : Type} (I : Iface σ) (n : Nat) (fault : Option (Nat × Int))

structure IInv {σ : Type} (n readEnd : Nat) (st : PState σ) : Prop where
  len : st.buf.length = n
  pr : st.procOff ≤ st.readOff
  re : st.readOff ≤ readEnd
  en : readEnd ≤ n

/-- `read_offset < N`: the slice handed to `read` is not empty. -/
structure PInv {σ : Type} (n : Nat) (st : PState σ) : Prop where
  len : st.buf.length = n
  pr : st.procOff ≤ st.readOff
  lt : st.readOff < n

theorem innerStep_inv (readEnd : Nat) (st : PState σ) (hinv : IInv n readEnd st) :
    match innerStep I n fault readEnd st with
    | .inl st' => IInv n readEnd st' ∧ st.readOff < st'.readOff
    | .inr (st', e) => IInv n readEnd st' ∧ ∀ c, e ≠ some (.crash c) := by
  rcases innerStep_view I n readEnd st with ⟨e, h, he⟩ | ⟨window, p, data, hw, hp, hd, h⟩
  · rw [h fault]
    refine ⟨hinv, ?_⟩
    rcases he with ⟨rfl, _⟩ | ⟨_, hbad⟩
    · exact fun _ hc => by cases hc
    · exact absurd ⟨hinv.pr, hinv.re, hinv.len ▸ hinv.en⟩ hbad
  · rw [h fault]
    obtain ⟨hq, _, _, hdl⟩ := slice_some hd
    obtain ⟨o, _, hsuf, hc | ⟨_, c, _, hc⟩ | ⟨_, _, c, _, hc⟩⟩ :=
      msgStep_cases I n fault st (st.readOff + p + 1) data
    · rw [hc.1]
      refine ⟨⟨hinv.len, ?_, msgEnd_le hw hp, hinv.en⟩, Nat.lt_succ_of_le (Nat.le_add_right _ _)⟩
      show (if o.rest = [] then _ else _) ≤ st.readOff + p + 1
      split
      · exact Nat.le_refl _
      · exact Nat.le_trans (Nat.sub_le _ _) (Nat.le_of_eq (hdl ▸ Nat.add_sub_cancel' hq))
    · rw [hc]
      exact ⟨⟨hinv.len, hinv.pr, hinv.re, hinv.en⟩, fun c h => by cases h⟩
    · rw [hc]
      exact ⟨⟨hinv.len, hinv.pr, hinv.re, hinv.en⟩, fun c h => by cases h⟩

def Frame {σ : Type} (st st' : PState σ) : Prop :=
  st'.stream = st.stream ∧ st'.sizes = st.sizes ∧ st.trace <+: st'.trace

theorem Frame.trans {σ : Type} {a b c : PState σ} (h : Frame a b) (h' : Frame b c) : Frame a c :=
  ⟨h'.1.trans h.1, h'.2.1.trans h.2.1, h.2.2.trans h'.2.2⟩

theorem innerStep_frame (readEnd : Nat) (st : PState σ) :
    Frame st (stOfInner (innerStep I n fault readEnd st)) := by
  rcases innerStep_view I n readEnd st with ⟨e, h, _⟩ | ⟨window, p, data, _, _, _, h⟩
  · rw [h fault]
    exact ⟨rfl, rfl, List.prefix_rfl⟩
  · rw [h fault]
    obtain ⟨o, _, _, hc | ⟨_, c, _, hc⟩ | ⟨_, _, c, _, hc⟩⟩ :=
      msgStep_cases I n fault st (st.readOff + p + 1) data
    · rw [hc.1]
      exact ⟨rfl, rfl, List.prefix_append _ _⟩
    · rw [hc]
      exact ⟨rfl, rfl, List.prefix_rfl⟩
    · rw [hc]
      exact ⟨rfl, rfl, List.prefix_append _ _⟩

theorem procInner_frame (readEnd fuel : Nat) (st : PState σ) :
    Frame st (procInner I n fault fuel readEnd st).1 :=
  procInner_invariant I n fault readEnd (fun _ s => Frame st s) (fun r => Frame st r.1)
    (fun _ h => h)
    (fun _ s h => by
      have := h.trans (innerStep_frame I n fault readEnd s)
      generalize innerStep I n fault readEnd s = r at this ⊢
      cases r <;> exact this)
    fuel st ⟨rfl, rfl, List.prefix_rfl⟩

/-- One unit of fuel per byte still to scan is enough: every step that goes round moves
`read_offset` forward. -/
theorem procInner_inv (readEnd fuel : Nat) (st : PState σ) (hinv : IInv n readEnd st) :
    IInv n readEnd (procInner I n fault fuel readEnd st).1 ∧
      (readEnd - st.readOff < fuel →
        ∀ c, (procInner I n fault fuel readEnd st).2 ≠ some (.crash c)) := by
  refine procInner_invariant I n fault readEnd
    (fun k s => IInv n readEnd s ∧ (readEnd - st.readOff < fuel → readEnd - s.readOff < k))
    (fun r => IInv n readEnd r.1 ∧ (readEnd - st.readOff < fuel → ∀ c, r.2 ≠ some (.crash c)))
    (fun s h => ⟨h.1, fun hf => absurd (h.2 hf) (Nat.not_lt_zero _)⟩) ?_ fuel st ⟨hinv, id⟩
  intro k s h
  have := innerStep_inv I n fault readEnd s h.1
  generalize innerStep I n fault readEnd s = r at this ⊢
  rcases r with s' | ⟨s', e⟩
  · exact ⟨this.1, fun hf => Nat.lt_of_lt_of_le
      (Nat.sub_lt_sub_left (Nat.lt_of_lt_of_le this.2 this.1.re) this.2)
      (Nat.le_of_lt_succ (h.2 hf))⟩
  · exact ⟨this.1, fun _ => this.2⟩

theorem afterRead_measure (st : PState σ) (hlt : st.readOff < n)
    (hne : ¬(st.stream.isEmpty ∧ st.sizes.isEmpty)) :
    (afterRead n st).sizes.length + (afterRead n st).stream.length
      < st.sizes.length + st.stream.length := by
  obtain ⟨_, _, h3⟩ := readCount_le n st
  show (st.sizes.drop 1).length + (st.stream.drop (readCount n st)).length < _
  rw [List.length_drop, List.length_drop]
  cases hs : st.sizes with
  | cons k ks =>
    rw [List.length_cons, Nat.add_sub_cancel]
    exact Nat.add_lt_add_of_lt_of_le (Nat.lt_succ_self _) (Nat.sub_le _ _)
  | nil =>
    -- the schedule has run out: the read delivers at least one byte
    have hl : 0 < st.stream.length :=
      List.length_pos_iff.mpr (fun h => hne ⟨List.isEmpty_iff.mpr h, List.isEmpty_iff.mpr hs⟩)
    rw [List.length_nil, Nat.zero_sub, Nat.zero_add, Nat.zero_add, h3 hs]
    exact Nat.sub_lt hl (Nat.lt_min.mpr ⟨Nat.sub_pos_of_lt hlt, hl⟩)

theorem afterRead_inv (st : PState σ) (h : PInv n st) :
    IInv n (st.readOff + readCount n st) (afterRead n st) := by
  obtain ⟨hlen, hpr, hlt⟩ := h
  obtain ⟨h1, h2, _⟩ := readCount_le n st
  have hle : st.readOff + readCount n st ≤ n := Nat.add_le_of_le_sub' (Nat.le_of_lt hlt) h1
  refine ⟨?_, hpr, Nat.le_add_right _ _, hle⟩
  show (st.buf.take st.readOff ++ st.stream.take (readCount n st)
    ++ st.buf.drop (st.readOff + readCount n st)).length = n
  rw [List.length_append, List.length_append, List.length_take, List.length_take,
    List.length_drop, hlen, Nat.min_eq_left (Nat.le_of_lt hlt), Nat.min_eq_left h2]
  exact Nat.add_sub_cancel' hle

/-- The measure `sizes.length + stream.length` is what the fuel of `procLoop` in `process`
bounds. -/
theorem outerStep_inv (st : PState σ) (h : PInv n st) :
    match outerStep I n fault st with
    | .inl st' => PInv n st' ∧
        st'.sizes.length + st'.stream.length < st.sizes.length + st.stream.length
    | .inr out => ∀ c, out.stop ≠ .crash c := by
  have hlt := h.lt
  rcases outerStep_view I n fault st with ⟨e, hs, he⟩ | ⟨_, _, hne, hs⟩
  · rw [hs]
    rcases he with ⟨_, hgt⟩ | ⟨c, rfl, _⟩ | ⟨rfl, _⟩
    · exact absurd hlt (Nat.lt_asymm hgt)
    · exact fun _ hc => by cases hc
    · exact fun _ hc => by cases hc
  · rw [hs]
    obtain ⟨hi, hnc⟩ := procInner_inv I n fault (st.readOff + readCount n st) (readCount n st + 1)
      (afterRead n st) (afterRead_inv n st h)
    replace hnc := hnc (Nat.lt_succ_of_le (Nat.le_of_eq (Nat.add_sub_cancel_left ..)))
    obtain ⟨hf2, hf3, _⟩ := procInner_frame I n fault (st.readOff + readCount n st)
      (readCount n st + 1) (afterRead n st)
    rcases outerTail_cases I n (st.readOff + readCount n st) _ with
      ⟨e, he, ht⟩ | ⟨_, hbad, _⟩ | ⟨_, buf', hl, _, ht⟩
    · rw [ht]
      intro c hc
      exact hnc c (he.trans (congrArg some hc))
    · exact absurd ⟨Nat.le_trans hi.pr hi.re, by rw [hi.len]; exact hi.en⟩ hbad
    · rw [ht]
      refine ⟨⟨hl.trans hi.len, Nat.zero_le _, ?_⟩, ?_⟩
      · show (if _ then 0 else _) < n
        split
        · exact Nat.lt_of_le_of_lt (Nat.zero_le _) hlt
        · exact Nat.lt_of_not_le ‹_›
      · show _ + _ < _
        rw [hf2, hf3]
        exact afterRead_measure n st hlt hne

theorem outerStep_pinv {st st' : PState σ} (h : PInv n st)
    (hs : outerStep I n fault st = .inl st') : PInv n st' := by
  have := outerStep_inv I n fault st h
  rw [hs] at this
  exact this.1

theorem procLoop_no_crash (fuel : Nat) (st : PState σ) (h : PInv n st)
    (hfuel : st.sizes.length + st.stream.length < fuel) :
    ∀ c, (procLoop I n fault fuel st).stop ≠ .crash c := by
  refine procLoop_invariant I n fault
    (fun k s => PInv n s ∧ s.sizes.length + s.stream.length < k)
    (fun out => ∀ c, out.stop ≠ .crash c) (fun s h => absurd h.2 (Nat.not_lt_zero _)) ?_ fuel st
    ⟨h, hfuel⟩
  intro k s h
  have := outerStep_inv I n fault s h.1
  generalize outerStep I n fault s = r at this ⊢
  cases r with
  | inl s' => exact ⟨this.1, Nat.lt_of_lt_of_le this.2 (Nat.le_of_lt_succ h.2)⟩
  | inr out => exact this

theorem initState_inv (sc : Script) (s : σ) (hn : 1 ≤ n) :
    PInv n (initState I n sc s) :=
  ⟨List.length_replicate, Nat.le_refl _, hn⟩

inductive OuterReach {σ : Type} (I : Iface σ) (n : Nat) (fault : Option (Nat × Int)) (a : PState σ) :
    PState σ → Prop where
  | refl : OuterReach I n fault a a
  | step {b c : PState σ} : OuterReach I n fault a b → outerStep I n fault b = .inl c →
      OuterReach I n fault a c

theorem outerReach_inv
    (a b : PState σ) (ha : PInv n a) (h : OuterReach I n fault a b) : PInv n b := by
  induction h with
  | refl => exact ha
  | step _ hs ih => exact outerStep_pinv I n fault ih hs

end Proc
end Scpi
