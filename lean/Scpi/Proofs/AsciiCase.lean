/-
ASCII letter case.  A text without lower-case letters (`LowerFree`: every key the macro emits)
equals `name` ignoring case iff it is `name` upper-cased (`eqIgnoreAsciiCase_iff_upper`).
-/
import Scpi.Macro

namespace Scpi

theorem isLowerAscii_toUpperAscii (b : Nat) : isLowerAscii (toUpperAscii b) = false := by
  grind [isLowerAscii, toUpperAscii]

theorem toLower_toUpper (n : Nat) : toLowerAscii (toUpperAscii n) = toLowerAscii n := by
  grind [toLowerAscii, toUpperAscii]

theorem toLower_toLower (n : Nat) : toLowerAscii (toLowerAscii n) = toLowerAscii n := by
  grind [toLowerAscii]

theorem toUpper_of_not_lower {b : Nat} (h : isLowerAscii b = false) : toUpperAscii b = b := by
  grind [isLowerAscii, toUpperAscii]

theorem toLower_eq_iff_of_not_lower {k n : Nat} (hk : isLowerAscii k = false) :
    toLowerAscii k = toLowerAscii n ↔ k = toUpperAscii n := by
  grind [isLowerAscii, toLowerAscii, toUpperAscii]

def LowerFree (k : Bytes) : Prop := ∀ b ∈ k, isLowerAscii b = false

instance (k : Bytes) : Decidable (LowerFree k) := by
  unfold LowerFree
  infer_instance

theorem lowerFree_map_toUpper (name : Bytes) : LowerFree (name.map toUpperAscii) := by
  intro b hb
  obtain ⟨a, _, rfl⟩ := List.mem_map.1 hb
  exact isLowerAscii_toUpperAscii a

theorem lowerFree_filter (name : Bytes) : LowerFree (name.filter fun c => !isLowerAscii c) := by
  intro b hb
  simpa using (List.mem_filter.1 hb).2

theorem eqIgnoreAsciiCase_eq (k name : Bytes) :
    eqIgnoreAsciiCase k name = (k.map toLowerAscii == name.map toLowerAscii) := by
  induction k generalizing name with
  | nil => cases name <;> simp [eqIgnoreAsciiCase]
  | cons a as ih =>
    cases name with
    | nil => simp [eqIgnoreAsciiCase]
    | cons b bs =>
      rw [eqIgnoreAsciiCase, ih]
      simp only [List.map_cons]
      rw [Bool.eq_iff_iff]
      simp

theorem eqIgnoreAsciiCase_iff (a b : Bytes) :
    eqIgnoreAsciiCase a b = true ↔ a.map toLowerAscii = b.map toLowerAscii := by
  rw [eqIgnoreAsciiCase_eq]
  exact beq_iff_eq

theorem eqIgnoreAsciiCase_map_left {f : Nat → Nat} (hf : ∀ b, toLowerAscii (f b) = toLowerAscii b)
    (name x : Bytes) : eqIgnoreAsciiCase (name.map f) x = eqIgnoreAsciiCase name x := by
  rw [eqIgnoreAsciiCase_eq, eqIgnoreAsciiCase_eq, List.map_map]
  congr 2
  funext b
  exact hf b

theorem eqIgnoreAsciiCase_self_map {f : Nat → Nat} (hf : ∀ b, toLowerAscii (f b) = toLowerAscii b)
    (a : Bytes) : eqIgnoreAsciiCase a (a.map f) = true := by
  rw [eqIgnoreAsciiCase_iff, List.map_map]
  exact List.map_congr_left fun b _ => (hf b).symm

theorem eqIgnoreAsciiCase_iff_upper {k : Bytes} (hk : LowerFree k) (name : Bytes) :
    eqIgnoreAsciiCase k name = true ↔ k = name.map toUpperAscii := by
  induction k generalizing name with
  | nil => cases name <;> simp [eqIgnoreAsciiCase]
  | cons a as ih =>
    cases name with
    | nil => simp [eqIgnoreAsciiCase]
    | cons b bs =>
      have ha : isLowerAscii a = false := hk a List.mem_cons_self
      have has : LowerFree as := fun x hx => hk x (List.mem_cons_of_mem _ hx)
      rw [eqIgnoreAsciiCase]
      simp only [Bool.and_eq_true, beq_iff_eq, List.map_cons, List.cons.injEq, ih has,
        toLower_eq_iff_of_not_lower ha]

theorem eqIgnoreAsciiCase_eq_beq_upper {k : Bytes} (hk : LowerFree k) (name : Bytes) :
    eqIgnoreAsciiCase k name = (name.map toUpperAscii == k) := by
  rw [Bool.eq_iff_iff, eqIgnoreAsciiCase_iff_upper hk, beq_iff_eq, eq_comm]

end Scpi
