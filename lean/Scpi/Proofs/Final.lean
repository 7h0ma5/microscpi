/-
One relation for both directions of C12.  `Final y a a'` relates the verdict `a` on `x` to the
verdict `a'` on `x ++ y`: every verdict but `incomplete` is final, and after `incomplete` a
success on the longer input has eaten into `y`.  Forwards it is extension stability
(`Final.fin`), backwards prefix determinacy (`Final.back`).  `quoted` and `arbitrary`, which may
run over terminator bytes, are `Final` on every non-empty input, and so is `argument` on an
input that contains a terminator, because its ordered choice is decided by the first byte.
-/
import Scpi.Proofs.ExtParse

namespace Scpi

structure Final {α : Type} (y : Bytes) (a a' : PResult α) : Prop where
  fin : a ≠ .incomplete → a' = a.extend y
  inc : a = .incomplete → ∀ R v, a' = .ok R v → R.length < y.length

theorem extend_eq_ok {α : Type} {a : PResult α} {y R : Bytes} {v : α}
    (h : a.extend y = .ok R v) : ∃ r, a = .ok r v ∧ R = r ++ y := by
  cases a with
  | ok r w =>
    cases h
    exact ⟨r, rfl, rfl⟩
  | _ => cases h

theorem Final.back {α : Type} {y : Bytes} {a a' : PResult α} (h : Final y a a') {r : Bytes}
    {v : α} (e : a' = .ok (r ++ y) v) : a = .ok r v := by
  by_cases hi : a = .incomplete
  · have := h.inc hi _ _ e
    simp only [List.length_append] at this
    omega
  · rw [h.fin hi] at e
    obtain ⟨r', ha, hr⟩ := extend_eq_ok e
    rw [List.append_cancel_right hr]
    exact ha

theorem fin_of_ext {α : Type} {y : Bytes} {a a' : PResult α} (h : a' = a.extend y) :
    Final y a a' := by
  refine ⟨fun _ => h, fun e R v e' => ?_⟩
  rw [h, e] at e'
  cases e'

theorem Rel.toFinal {α : Type} {y : Bytes} {a a' : PResult α} (h : Rel y a a') : Final y a a' :=
  fin_of_ext h.ext

theorem fin_bind {α β : Type} {y : Bytes} {a a' : PResult α} {k k' : Bytes → α → PResult β}
    (h : Rel y a a') (hk : ∀ r v, a = .ok r v → HasTerm r → Final y (k r v) (k' (r ++ y) v)) :
    Final y (a.bind k) (a'.bind k') := by
  obtain ⟨rfl, keep⟩ := h
  cases a with
  | ok r v => exact hk r v rfl (keep r v rfl)
  | _ => exact fin_of_ext rfl

theorem fin_orNext {α : Type} {y : Bytes} {a a' : PResult α} {b b' : Unit → PResult α}
    (ha : Rel y a a') (hb : Final y (b ()) (b' ())) : Final y (a.orNext b) (a'.orNext b') := by
  obtain ⟨rfl, _⟩ := ha
  cases a with
  | soft e => exact hb
  | fatal e => exact hb
  | _ => exact fin_of_ext rfl

theorem fin_orNext_soft {α : Type} {y : Bytes} {a a' : PResult α} (e : Option Err)
    (h : Final y a a') : Final y (a.orNext fun _ => .soft e) (a'.orNext fun _ => .soft e) := by
  by_cases hi : a = .incomplete
  · subst hi
    refine ⟨fun h => absurd rfl h, fun _ R v e' => h.inc rfl R v ?_⟩
    cases a' with
    | ok r w => exact e'
    | _ => cases e'
  · rw [h.fin hi]
    refine fin_of_ext ?_
    cases a <;> rfl

theorem PD.rel_back {α : Type} {y : Bytes} {a a' : PResult α} {R : Bytes} {v : α}
    (h : Rel y a a') (e : a' = .ok R v) : ∃ r, R = r ++ y ∧ a = .ok r v ∧ HasTerm r := by
  rw [h.ext] at e
  obtain ⟨r, ha, hR⟩ := extend_eq_ok e
  exact ⟨r, hR, ha, h.keep r v ha⟩

/-- The shape that `blockBody` and `blockPayload` share. -/
theorem fin_take {α : Type} {y : Bytes} (n : Nat) (k : Bytes → Bytes → PResult α)
    (t : Bytes) (hk : ∀ a r, Final y (k a r) (k a (r ++ y))) (hg : ∀ a r, RGood r (k a r)) :
    Final y (if t.length < n then .incomplete else k (t.take n) (t.drop n))
      (if (t ++ y).length < n then .incomplete else k ((t ++ y).take n) ((t ++ y).drop n)) := by
  by_cases hl : t.length < n
  · refine ⟨fun h => absurd (if_pos hl) h, fun _ R v e => ?_⟩
    by_cases hl' : (t ++ y).length < n
    · rw [if_pos hl'] at e
      cases e
    · rw [if_neg hl'] at e
      have := ((hg _ _).suffix R v e).length_le
      simp only [List.length_drop, List.length_append] at this hl'
      omega
  · have hle : n ≤ t.length := Nat.le_of_not_lt hl
    have hl' : ¬ (t ++ y).length < n := by
      rw [List.length_append]
      omega
    rw [if_neg hl, if_neg hl', List.take_append_of_le_length hle,
      List.drop_append_of_le_length hle]
    exact hk _ _

theorem blockPayload_fin (cnt : Nat) (t y : Bytes) :
    Final y (blockPayload cnt t) (blockPayload cnt (t ++ y)) :=
  fin_take cnt (fun a r => .ok r (Value.arb a)) t (fun _ _ => fin_of_ext rfl)
    (fun _ _ => rgood_ok (List.suffix_refl _))

theorem blockBody_fin (nd : Nat) (t y : Bytes) :
    Final y (blockBody nd t) (blockBody nd (t ++ y)) := by
  refine fin_take nd (fun a r => if !validUtf8 a then ofErr .CommandError else
    match fromStrRadix false 64 10 a with
    | none => ofErr .InvalidCharacterInNumber
    | some cnt => blockPayload cnt.toNat r) t (fun a r => ?_) (fun a r => ?_)
  · split
    · exact rel_ofErr.toFinal
    · split
      · exact rel_ofErr.toFinal
      · exact blockPayload_fin _ _ _
  · split
    · exact rgood_ofErr
    · split
      · exact rgood_ofErr
      · exact rgood_blockPayload _ _

theorem arbitrary_fin (x y : Bytes) (hx : x ≠ []) :
    Final y (arbitrary x) (arbitrary (x ++ y)) := by
  cases x with
  | nil => exact absurd rfl hx
  | cons b t =>
    rw [List.cons_append, arbitrary_cons, arbitrary_cons]
    split
    · cases t with
      | nil =>
        -- only `#` so far: a block completed by `y` took its length digit from `y`
        refine ⟨fun h => absurd rfl h, fun _ R v e => ?_⟩
        cases y with
        | nil => cases e
        | cons d i2 =>
          simp only [List.nil_append] at e
          split at e
          · have := ((rgood_blockBody _ _).suffix R v e).length_le
            rw [List.length_cons]
            omega
          · exact absurd e ofErr_ne_ok
      | cons d i2 =>
        simp only [List.cons_append]
        split
        · exact blockBody_fin _ _ _
        · exact rel_ofErr.toFinal
    · exact rel_ofErr.toFinal

theorem quoted_fin (q : Nat) (x y : Bytes) (hx : x ≠ []) :
    Final y (quoted q x) (quoted q (x ++ y)) := by
  cases x with
  | nil => exact absurd rfl hx
  | cons b t =>
    rw [List.cons_append, quoted_cons, quoted_cons]
    cases b == q with
    | false =>
      rw [if_neg Bool.false_ne_true, if_neg Bool.false_ne_true]
      exact rel_ofErr.toFinal
    | true =>
      rw [if_pos rfl, if_pos rfl]
      cases hd : t.dropWhile (fun c => c != q) with
      | nil =>
        -- no closing quote in `t`: the scan continues in `y`
        refine ⟨fun h => absurd rfl h, fun _ R v e => ?_⟩
        rw [List.dropWhile_append, hd, if_pos List.isEmpty_nil] at e
        obtain ⟨i3, _, e3, e⟩ := bind_eq_ok e
        have l3 := satisfy_ok_length e3
        have ls := (List.dropWhile_suffix (fun c => c != q) (l := y)).length_le
        cases fromUtf8_eq_ok e
        omega
      | cons c d =>
        have hne : t.dropWhile (fun c => c != q) ≠ [] := hd ▸ List.cons_ne_nil c d
        obtain ⟨e2, e3⟩ := dropWhile_takeWhile_append_of_ne_nil y hne
        rw [e2, e3, hd]
        refine fin_of_ext (ext_bind (satisfy_ext y (List.cons_ne_nil _ _)) fun i3 _ _ => ?_)
        exact ext_fromUtf8 fun s => rfl

theorem argument_fin (x y : Bytes) (hT : HasTerm x) : Final y (argument x) (argument (x ++ y)) := by
  cases x with
  | nil => exact absurd rfl hT.ne_nil
  | cons b t =>
    have hx : b :: t ≠ [] := List.cons_ne_nil _ _
    by_cases hq : b = 39 ∨ b = 34
    · rw [List.cons_append, argument_quote _ hq, argument_quote _ hq, ← List.cons_append]
      exact fin_orNext_soft _ (quoted_fin _ _ y hx)
    · by_cases h35 : b = 35
      · subst h35
        rw [List.cons_append, argument_hash, argument_hash, ← List.cons_append]
        exact fin_orNext (rel_orNext (rel_orNext (cb_hexadecimal _ y hT) (cb_binary _ y hT))
          (cb_octal _ y hT)) (arbitrary_fin _ y hx)
      · obtain ⟨h39, h34⟩ := not_or.mp hq
        rw [List.cons_append, argument_other _ h39 h34 h35, argument_other _ h39 h34 h35,
          ← List.cons_append]
        exact (rel_orNext (rel_orNext (cb_characters _ y hT) (cb_decimal _ y hT)) rel_soft).toFinal

end Scpi
