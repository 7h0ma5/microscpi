/-
Rendered messages whose payloads may contain newlines, as a `Scpi.C08.Session`.

`specSession` is the meaning of a sequence of messages on ONE response writer (the comparison
object of `Scpi.C08.process_payload_messages`).  `run` on the concatenated renderings computes it
(`run_session_render`), and the renderings form a `Session` when each fits the command buffer and
each response is at most `n` bytes (`session_render`; `RespFits` is stated on `specExec`).
-/
import Scpi.Props.RunRender
import Scpi.Props.C08Process

namespace Scpi
namespace Combo
open Msg

def specSession {σ : Type} (I : Iface σ) : List (List MsgUnit) → Writer → σ → Writer × σ
  | [], w, s => (w, s)
  | us :: rest, w, s =>
    specSession I rest (specExec I I.root us w s).1 (specExec I I.root us w s).2

def RespFits {σ : Type} (I : Iface σ) (n : Nat) : List (List MsgUnit) → Writer → σ → Prop
  | [], _, _ => True
  | us :: rest, W, s =>
    (specExec I I.root us W s).1.buf.length ≤ W.buf.length + n ∧
    RespFits I n rest (specExec I I.root us W s).1 (specExec I I.root us W s).2

/-- The hypotheses on one message that may carry newlines in payloads. -/
structure Renderable (root : Node) (n : Nat) (m : List (MsgUnit × Lex)) : Prop where
  ne : m ≠ []
  wf : wfMsg m = true
  safe : dropSafe root root (units m) = true
  fits : (renderMsg m).length ≤ n

theorem renderMsg_getLast {m : List (MsgUnit × Lex)} (hne : m ≠ []) :
    (renderMsg m).getLast? = some 10 := by
  obtain ⟨m, ⟨u, ℓ⟩, rfl⟩ := (List.eq_nil_or_concat m).resolve_left hne
  rw [List.concat_eq_append, renderMsg_concat_body]
  exact List.getLast?_concat

variable {σ : Type} (I : Iface σ) (n : Nat)

theorem run_session_render :
    ∀ (ms : List (List (MsgUnit × Lex))) (w : Writer) (s : σ),
    (∀ m ∈ ms, Renderable I.root n m) →
    run I (ms.map renderMsg).flatten w s = finished I (specSession I (ms.map units) w s)
  | [], w, s, _ => by
    simp only [List.map_nil, List.flatten_nil, run, runFrom_nil, specSession, finished]
  | m :: ms, w, s, h => by
    have hm := h m List.mem_cons_self
    simp only [List.map_cons, List.flatten_cons, specSession]
    unfold run
    rw [run_render I m I.root _ w s hm.ne hm.wf hm.safe]
    exact run_session_render ms _ _ fun x hx => h x (List.mem_cons_of_mem _ hx)

theorem session_render :
    ∀ (ms : List (List (MsgUnit × Lex))) (W : Writer) (s : σ),
    (∀ m ∈ ms, Renderable I.root n m) → RespFits I n (ms.map units) W s →
    C08.Session I n (ms.map renderMsg) W s
  | [], _, _, _, _ => trivial
  | m :: ms, W, s, h, hr => by
    have hm := h m List.mem_cons_self
    have e := run_render_run I m W s hm.ne hm.wf hm.safe
    simp only [List.map_cons, C08.Session, e]
    exact ⟨renderMsg_getLast hm.ne, hm.fits, trivial, hr.1,
      session_render ms _ _ (fun x hx => h x (List.mem_cons_of_mem _ hx)) hr.2⟩

theorem session_traced :
    ∀ (msgs : List Bytes) (W : Writer) (s : σ) (l : List Ev),
    C08.Session I n msgs W s → C08.Session I.traced n msgs W (s, l)
  | [], _, _, _, _ => trivial
  | m :: msgs, W, s, l, h => by
    have e := run_traced I m W s l
    obtain ⟨h1, h2, h3, h4, h5⟩ := h
    simp only [C08.Session, e]
    exact ⟨h1, h2, h3, h4, session_traced msgs _ _ _ h5⟩

end Combo
end Scpi
