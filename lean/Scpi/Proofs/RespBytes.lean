/-
C04 at the level of bytes: what the model's response encoders (Response.lean) write for each kind
of response, and that the leaf readers of `Spec/Decode.lean` read it back.
-/
import Scpi.Spec.Decode
import Scpi.Proofs.ListScan

namespace Scpi
open C04

/-! ### `strBytes` of the literals of response.rs (evaluated: `String.toUTF8` of a literal) -/

theorem strBytes_hash10 : strBytes "#10" = [35, 49, 48] := by decide +kernel

theorem strBytes_nanSentinel : strBytes "9.91E+37" = [57, 46, 57, 49, 69, 43, 51, 55] := by
  decide +kernel

theorem strBytes_infSentinel : strBytes "9.9E+37" = [57, 46, 57, 69, 43, 51, 55] := by
  decide +kernel

theorem strBytes_negInfSentinel : strBytes "-9.9E+37" = [45, 57, 46, 57, 69, 43, 51, 55] := by
  decide +kernel

theorem natDigits_eq_if (n : Nat) :
    natDigits n = if n < 10 then [48 + n] else natDigits (n / 10) ++ [48 + n % 10] := by
  unfold natDigits
  rw [Nat.toDigits_eq_if (by decide : 1 < 10)]
  split
  · next h => rw [List.map_singleton, Nat.toNat_digitChar_of_lt_ten h]
  · rw [List.map_append, List.map_singleton,
      Nat.toNat_digitChar_of_lt_ten (Nat.mod_lt n (by decide))]

theorem natDigits_ne_nil (n : Nat) : natDigits n ≠ [] := by
  simp [natDigits]

theorem isDig_digit {d : Nat} (h : d < 10) : isDig (48 + d) = true := by
  simp only [isDig, Bool.and_eq_true, decide_eq_true_eq]
  omega

theorem natDigits_all_dig (n : Nat) : ∀ b ∈ natDigits n, isDig b = true := by
  induction n using Nat.strongRecOn with
  | _ n ih =>
    rw [natDigits_eq_if]
    split
    · next h => simpa only [List.mem_singleton, forall_eq] using isDig_digit h
    · intro b hb
      rcases List.mem_append.1 hb with hb | hb
      · exact ih (n / 10) (by omega) b hb
      · rw [List.mem_singleton.1 hb]
        exact isDig_digit (Nat.mod_lt n (by decide))

theorem decVal_snoc (l : Bytes) (d : Nat) : decVal (l ++ [d]) = decVal l * 10 + (d - 48) := by
  simp [decVal, List.foldl_append]

theorem decVal_natDigits (n : Nat) : decVal (natDigits n) = n := by
  induction n using Nat.strongRecOn with
  | _ n ih =>
    rw [natDigits_eq_if]
    split
    · simp [decVal]
    · rw [decVal_snoc, ih (n / 10) (by omega), Nat.add_sub_cancel_left]
      exact Nat.div_add_mod' n 10

theorem natDigits_length_le_iff (n k : Nat) (h : 0 < k) :
    (natDigits n).length ≤ k ↔ n < 10 ^ k := by
  unfold natDigits
  rw [List.length_map]
  exact Nat.length_toDigits_le_iff (by decide) h

theorem decNat_natDigits (n : Nat) (rest : Bytes)
    (hr : ∀ b, rest.head? = some b → isDig b = false) :
    decNat (natDigits n ++ rest) = some (n, rest) := by
  obtain ⟨h1, h2⟩ := takeWhile_dropWhile_append (natDigits_all_dig n) hr
  simp only [decNat, h1, h2, decVal_natDigits, List.isEmpty_iff, natDigits_ne_nil, if_false]

theorem decInt_intPieces (v : Int) (rest : Bytes)
    (hr : ∀ b, rest.head? = some b → isDig b = false) :
    decInt ((intPieces v).flatten ++ rest) = some (v, rest) := by
  unfold intPieces
  split
  · simp [decInt, decNat_natDigits _ _ hr]
    omega
  · -- the text starts with a digit, not with `-`
    have h45 : (natDigits v.toNat).head? ≠ some 45 := fun h =>
      absurd (natDigits_all_dig _ 45 (List.mem_of_mem_head? h)) (by decide)
    simp [decInt, h45, natDigits_ne_nil, decNat_natDigits _ _ hr]
    omega

def dbl (s : Bytes) : Bytes := s.flatMap fun b => if b = 34 then [34, 34] else [b]

theorem dbl_cons (b : Nat) (s : Bytes) :
    dbl (b :: s) = (if b = 34 then [34, 34] else [b]) ++ dbl s := rfl

/-- The loop of `write_quoted` over `split('"')`: `cur` is the part being collected, `first`
says that no part has been written yet. -/
theorem quotedGo_bytes (s cur : Bytes) (first : Bool) :
    ((quotedCalls.go (splitQuote s cur) first).map WCall.bytes).flatten =
      (if first then [] else [34, 34]) ++ cur ++ dbl s := by
  induction s generalizing cur first with
  | nil => cases first <;> simp [splitQuote, quotedCalls.go, WCall.bytes, dbl]
  | cons b rest ih =>
    by_cases hb : b = 34
    · cases first <;> simp [splitQuote, quotedCalls.go, WCall.bytes, dbl, hb, ih]
    · simp [splitQuote, dbl, hb, ih]

theorem quoted_bytes (s : Bytes) :
    ((quotedCalls s).map WCall.bytes).flatten = 34 :: dbl s ++ [34] := by
  unfold quotedCalls
  simp only [List.map_append, List.flatten_append, quotedGo_bytes]
  simp [WCall.bytes]

theorem unquote_dbl (s rest : Bytes) (hr : rest.head? ≠ some 34) :
    unquote (dbl s ++ 34 :: rest) = some (s, rest) := by
  induction s with
  | nil =>
    cases rest with
    | nil => rfl
    | cons c r => simp [dbl, unquote, show c ≠ 34 from fun h => hr (h ▸ rfl)]
  | cons b s ih =>
    rw [dbl_cons]
    by_cases hb : b = 34
    · simp [unquote, hb, ih]
    · rw [if_neg hb, List.singleton_append, List.cons_append]
      unfold unquote
      rw [if_neg hb, ih]
      rfl

theorem decStr_quoted (s rest : Bytes) (hr : rest.head? ≠ some 34) :
    decStr (((quotedCalls s).map WCall.bytes).flatten ++ rest) = some (s, rest) := by
  simpa [quoted_bytes, decStr] using unquote_dbl s rest hr

def seqEnc (l : List Resp) (first : Bool) : Bytes :=
  ((Resp.seqCalls l first).map WCall.bytes).flatten

theorem bytes_singleton (c : WCall) : ([c].map WCall.bytes).flatten = c.bytes :=
  List.append_nil _

theorem encode_unit : Resp.unit.encode = [] := rfl

theorem encode_bool (b : Bool) : (Resp.bool b).encode = [if b then 49 else 48] :=
  bytes_singleton _

theorem encode_int (v : Int) : (Resp.int v).encode = (intPieces v).flatten :=
  bytes_singleton _

theorem encode_str (s : Bytes) : (Resp.str s).encode = 34 :: dbl s ++ [34] :=
  quoted_bytes s

theorem encode_chars (s : Bytes) : (Resp.chars s).encode = s :=
  bytes_singleton _

theorem not_isNan_of_isInf {f : FloatFmt} {b : Nat} (h : f.isInf b = true) :
    ¬ f.isNan b = true := by
  simp only [FloatFmt.isInf, Bool.and_eq_true, beq_iff_eq] at h
  simp [FloatFmt.isNan, h.2]

theorem floatCalls_bytes (f : FloatFmt) (b : Nat) :
    ((floatCalls f b).map WCall.bytes).flatten =
      if f.isNan b then [57, 46, 57, 49, 69, 43, 51, 55]
      else if f.isInf b then
        if f.negOf b then [45, 57, 46, 57, 69, 43, 51, 55] else [57, 46, 57, 69, 43, 51, 55]
      else floatText f b := by
  unfold floatCalls
  cases f.isNan b
  · cases f.isInf b
    · exact bytes_singleton _
    · cases f.negOf b
      · exact (bytes_singleton _).trans strBytes_infSentinel
      · exact (bytes_singleton _).trans strBytes_negInfSentinel
  · exact (bytes_singleton _).trans strBytes_nanSentinel

theorem encode_err (e : Err) :
    (Resp.err e).encode =
      (intPieces e.number).flatten ++
        44 :: ((quotedCalls e.descBytes).map WCall.bytes).flatten := by
  simp [Resp.encode, Resp.calls, WCall.bytes]

theorem encode_arb_empty : (Resp.arb []).encode = [35, 49, 48] :=
  (bytes_singleton _).trans strBytes_hash10

/-- The `#10` that `write_response` writes as a literal for the empty block has this form too. -/
theorem encode_arb (s : Bytes) (h : s.length < 10 ^ 9) :
    (Resp.arb s).encode =
      35 :: (48 + (natDigits s.length).length) :: (natDigits s.length ++ s) := by
  by_cases h0 : 0 < s.length
  · have hk := (natDigits_length_le_iff _ 9 (by decide)).2 h
    simp only [Resp.encode, Resp.calls, h0, if_true, Nat.not_lt.2 hk, if_false]
    rw [natDigits_eq_if (natDigits _).length, if_pos (by omega)]
    simp [WCall.bytes]
  · cases List.length_eq_zero_iff.1 (Nat.eq_zero_of_not_pos h0)
    rw [encode_arb_empty]
    simp [natDigits_eq_if]

theorem calls_arb_too_long (s : Bytes) (h : 10 ^ 9 ≤ s.length) :
    (Resp.arb s).calls = [.fail (.std .TooMuchData)] := by
  have h0 : s.length > 0 := Nat.lt_of_lt_of_le (by decide) h
  have hk : (natDigits s.length).length > 9 := Nat.lt_of_not_le fun hle =>
    Nat.not_lt.2 h ((natDigits_length_le_iff _ 9 (by decide)).1 hle)
  simp only [Resp.calls, h0, if_true, hk]

theorem encode_seq (l : List Resp) : (Resp.seq l).encode = seqEnc l true := rfl

theorem seqEnc_nil (first : Bool) : seqEnc [] first = [] := rfl

theorem seqEnc_cons (r : Resp) (rs : List Resp) (first : Bool) :
    seqEnc (r :: rs) first = (if first then [] else [44]) ++ r.encode ++ seqEnc rs false := by
  simp only [seqEnc, Resp.seqCalls, List.map_append, List.flatten_append, Resp.encode]
  cases first <;> simp [WCall.bytes]

theorem seqEnc_cons_true (r : Resp) (rs : List Resp) :
    seqEnc (r :: rs) true = r.encode ++ seqEnc rs false :=
  seqEnc_cons r rs true

theorem seqEnc_cons_false (r : Resp) (rs : List Resp) :
    seqEnc (r :: rs) false = 44 :: (r.encode ++ seqEnc rs false) := by
  rw [seqEnc_cons]
  rfl

theorem decArb_encode (s rest : Bytes) (h : s.length < 10 ^ 9) :
    decArb ((Resp.arb s).encode ++ rest) = some (s, rest) := by
  have hk := (natDigits_length_le_iff s.length 9 (by decide)).2 h
  have hp := List.length_pos_iff.2 (natDigits_ne_nil s.length)
  have hall : (natDigits s.length).all isDig = true := List.all_eq_true.2 (natDigits_all_dig _)
  rw [encode_arb s h]
  simp only [List.cons_append, List.append_assoc, decArb]
  rw [if_pos ⟨trivial, by omega, by omega⟩]
  simp [hall, decVal_natDigits]

end Scpi
