/-
The command header: `command_program_header` on the rendering of a well-formed
header walks `Node.child` along the mnemonics (C01/C02) and fails with
`UndefinedHeader` exactly when the walk does.  The text may have white space around
its colons (`Sep`); `HdrPath.render` of `Spec/Ast.lean` is the spelling without.
-/
import Scpi.Proofs.RenderComb
import Scpi.Proofs.GoodParse

namespace Scpi

theorem headerSeparator_soft {w : Bytes} {d : Nat} (r : Bytes) (hw : allWs w = true)
    (hd : isWs d = false) (h58 : d ≠ 58) :
    headerSeparator (w ++ d :: r) = .soft (some (.std .HeaderSeparatorError)) :=
  separator_soft r hw hd h58

theorem headerSeparator_soft_cons {d : Nat} (r : Bytes) (hd : isWs d = false) (h58 : d ≠ 58) :
    headerSeparator (d :: r) = .soft (some (.std .HeaderSeparatorError)) :=
  headerSeparator_soft (w := []) r rfl hd h58

theorem lookup_valid {α : Type} (node : Node) {name : Bytes} (k : Node → PResult α)
    (h : validUtf8 name = true) :
    lookup node name k = match node.child name with
      | some n => k n
      | none => .fatal (.std .UndefinedHeader) := by
  simp only [lookup, fromUtf8_valid _ h, ofErr_undefinedHeader]
  cases node.child name <;> rfl

theorem alpha_not_ws {b : Nat} (h : isAlpha b = true) : isWs b = false := by
  rw [isAlpha_iff] at h
  exact eq_false_of_iff (isWs_iff b) (by omega)

theorem alpha_ne_colon_star_nl {b : Nat} (h : isAlpha b = true) : b ≠ 58 ∧ b ≠ 42 ∧ b ≠ 10 := by
  rw [isAlpha_iff] at h
  omega

/-- A level separator as the parser accepts it: a colon with optional white space on
both sides (`header_separator`, parser.rs:266-271). -/
structure Sep where
  before : Bytes
  after : Bytes
  deriving DecidableEq, Repr

def Sep.wf (s : Sep) : Bool := allWs s.before && allWs s.after

def Sep.render (s : Sep) : Bytes := s.before ++ 58 :: s.after

def renderSeps : List (Sep × Bytes) → Bytes
  | [] => []
  | (s, m) :: r => s.render ++ (m ++ renderSeps r)

def wfSeps (more : List (Sep × Bytes)) : Bool := more.all fun p => p.1.wf && isMnemonicText p.2

def plainSeps (ms : List Bytes) : List (Sep × Bytes) := ms.map fun m => (⟨[], []⟩, m)

theorem plainSeps_snd (ms : List Bytes) : (plainSeps ms).map (·.2) = ms := by
  simp only [plainSeps, List.map_map, Function.comp_def, List.map_id']

theorem wfSeps_plain {ms : List Bytes} (h : ms.all isMnemonicText = true) :
    wfSeps (plainSeps ms) = true := by
  rw [wfSeps, plainSeps, List.all_map]
  -- `Sep.wf ⟨[], []⟩ && isMnemonicText m` computes to `isMnemonicText m`
  exact h

theorem renderPath_cons : ∀ (m : Bytes) (ms : List Bytes),
    renderPath (m :: ms) = m ++ renderSeps (plainSeps ms)
  | m, [] => (List.append_nil m).symm
  | m, m' :: ms => by
    show m ++ 58 :: renderPath (m' :: ms) = _
    rw [renderPath_cons m' ms]
    rfl

theorem headerSeparator_sep {s : Sep} {X : Bytes} (hs : s.wf = true) (hX : Ends isWs X) :
    headerSeparator (s.render ++ X) = .ok X () := by
  simp only [Sep.wf, Bool.and_eq_true] at hs
  simp only [Sep.render, List.append_assoc, List.cons_append]
  exact separator_render (by decide) hs.1 hs.2 hX

theorem headerSeparator_colon_ws {a X : Bytes} (ha : allWs a = true) (hX : Ends isWs X) :
    headerSeparator (58 :: (a ++ X)) = .ok X () :=
  headerSeparator_sep (s := ⟨[], a⟩) (X := X) (Bool.and_eq_true_iff.mpr ⟨rfl, ha⟩) hX

theorem ends_mnemonicTail_sep {s : Sep} (hs : s.wf = true) (Y : Bytes) :
    Ends isMnemonicTail (s.render ++ Y) := by
  simp only [Sep.wf, Bool.and_eq_true, allWs] at hs
  rw [Sep.render, List.append_assoc]
  cases hb : s.before with
  | nil => exact ends_cons (by decide)
  | cons b t =>
    rw [hb, List.all_cons, Bool.and_eq_true] at hs
    exact ends_cons (isDelim_not_mnemonicTail (isDelim_of_isWs hs.1.1))

theorem ends_mnemonicTail_seps {more : List (Sep × Bytes)} {X : Bytes} (hwf : wfSeps more = true)
    (hX : Ends isMnemonicTail X) : Ends isMnemonicTail (renderSeps more ++ X) := by
  cases more with
  | nil => exact hX
  | cons p more =>
    simp only [wfSeps, List.all_cons, Bool.and_eq_true] at hwf
    simp only [renderSeps, List.append_assoc]
    exact ends_mnemonicTail_sep hwf.1.1 _

theorem ends_ws_mnemonic {m : Bytes} (hm : isMnemonicText m = true) (Y : Bytes) :
    Ends isWs (m ++ Y) := by
  obtain ⟨b0, t0, e0, hb0, _⟩ := isMnemonicText_cons hm
  rw [e0]
  exact ends_cons (alpha_not_ws hb0)

/-- What `headerRun` computes along `ms`: the node reached and the one before it. -/
def walkFrom : Node → Node → List Bytes → Option (Node × Node)
  | node, header, [] => some (node, header)
  | node, _, m :: ms => (node.child m).bind fun c => walkFrom c node ms

theorem resolveFrom_cons (parent h : Node) (m : Bytes) (ms : List Bytes) :
    resolveFrom parent (m :: ms) = (walkFrom parent h (m :: ms)).map fun p => (p.1, some p.2) := by
  induction ms generalizing parent h m with
  | nil =>
    simp only [resolveFrom, walkFrom]
    cases parent.child m <;> rfl
  | cons m' ms ih =>
    show ((parent.child m).bind fun n => resolveFrom n (m' :: ms)) =
      ((parent.child m).bind fun c => walkFrom c parent (m' :: ms)).map _
    cases parent.child m with
    | none => rfl
    | some n => exact ih n parent m'

theorem headerRun_renderSeps {X : Bytes} (hX : Ends isMnemonicTail X) :
    ∀ (more : List (Sep × Bytes)) (node header : Node), wfSeps more = true →
    headerRun node header (renderSeps more ++ X) =
      match walkFrom node header (more.map (·.2)) with
      | some p => headerRun p.1 p.2 X
      | none => .fatal (.std .UndefinedHeader) := by
  intro more
  induction more with
  | nil => exact fun _ _ _ => rfl
  | cons p more ih =>
    obtain ⟨s, m⟩ := p
    intro node header hwf
    simp only [wfSeps, List.all_cons, Bool.and_eq_true] at hwf
    have hE := ends_mnemonicTail_seps hwf.2 hX
    simp only [renderSeps, List.append_assoc, List.map_cons, walkFrom]
    rw [headerRun_eq, headerSeparator_sep hwf.1.1 (ends_ws_mnemonic hwf.1.2 _)]
    simp only [mnemonic_append hwf.1.2 hE, PResult.bind,
      lookup_valid _ _ (validUtf8_mnemonic hwf.1.2)]
    cases node.child m with
    | none => rfl
    | some c => exact ih c node hwf.2

/-- The optional leading colon, with the white space behind it. -/
def renderAbs : Option Bytes → Bytes
  | some a => 58 :: a
  | none => []

theorem render_compound (a : Bool) (m : Bytes) (ms : List Bytes) :
    (HdrPath.compound a (m :: ms)).render =
      renderAbs (if a then some [] else none) ++ (m ++ renderSeps (plainSeps ms)) := by
  cases a <;> simp only [HdrPath.render, renderPath_cons, renderAbs, if_true, Bool.false_eq_true,
    if_false]

theorem allWs_abs_plain (a : Bool) :
    ∀ w ∈ (if a then some [] else none : Option Bytes), allWs w = true := by
  cases a with
  | false => exact fun _ hw => by cases hw
  | true =>
    intro w hw
    cases hw
    rfl

theorem compoundHeader_renderSeps (root cur : Node) {abs : Option Bytes} {m : Bytes}
    {more : List (Sep × Bytes)} {X : Bytes} (habs : ∀ a ∈ abs, allWs a = true)
    (hm : isMnemonicText m = true) (hmore : wfSeps more = true) (hX : Ends isMnemonicTail X) :
    compoundHeader root cur (renderAbs abs ++ (m ++ (renderSeps more ++ X))) =
      match walkFrom (if abs.isSome then root else cur) cur (m :: more.map (·.2)) with
      | some p => headerRun p.1 p.2 X
      | none => .fatal (.std .UndefinedHeader) := by
  obtain ⟨b0, t0, e0, hb0, _⟩ := isMnemonicText_cons hm
  have hopt : optP headerSeparator (renderAbs abs ++ (m ++ (renderSeps more ++ X))) =
      .ok (m ++ (renderSeps more ++ X)) (abs.map fun _ => ()) := by
    cases abs with
    | some a =>
      simp only [renderAbs, List.cons_append, optP, Option.map_some,
        headerSeparator_colon_ws (habs a rfl) (ends_ws_mnemonic hm _)]
    | none =>
      simp only [renderAbs, List.nil_append, optP, Option.map_none]
      rw [e0, List.cons_append, headerSeparator_soft_cons _ (alpha_not_ws hb0) (alpha_ne_colon_star_nl hb0).1]
  unfold compoundHeader
  rw [hopt]
  simp only [PResult.bind, mnemonic_append hm (ends_mnemonicTail_seps hmore hX),
    lookup_valid _ _ (validUtf8_mnemonic hm), Option.isSome_map, walkFrom]
  cases (if abs.isSome = true then root else cur).child m with
  | none => rfl
  -- the `headerLoop (i2.length + 1)` of `compoundHeader` is `headerRun` by definition
  | some n => exact headerRun_renderSeps hX more n _ hmore

theorem HdrPath.compound_wf {a : Bool} {ms : List Bytes} (h : (HdrPath.compound a ms).wf = true) :
    ∃ m ms', ms = m :: ms' ∧ isMnemonicText m = true ∧ ms'.all isMnemonicText = true := by
  cases ms with
  | nil => exact absurd h Bool.false_ne_true
  | cons m ms =>
    simp only [HdrPath.wf, List.isEmpty_cons, Bool.not_false, Bool.true_and, List.all_cons,
      Bool.and_eq_true] at h
    exact ⟨m, ms, rfl, h⟩

theorem compoundHeader_render (root cur : Node) (a : Bool) {m : Bytes} {ms : List Bytes}
    {tail : Bytes} {e : Option Err} (hm : isMnemonicText m = true)
    (hms : ms.all isMnemonicText = true) (ht : Ends isMnemonicTail tail)
    (hsep : headerSeparator tail = .soft e) :
    compoundHeader root cur ((HdrPath.compound a (m :: ms)).render ++ tail) =
      match resolveFrom (if a then root else cur) (m :: ms) with
      | some nh => .ok tail nh
      | none => .fatal (.std .UndefinedHeader) := by
  have hroot : (if (if a then some [] else none : Option Bytes).isSome then root else cur) =
      (if a then root else cur) := by cases a <;> rfl
  rw [render_compound, List.append_assoc, List.append_assoc,
    compoundHeader_renderSeps root cur (allWs_abs_plain a) hm (wfSeps_plain hms) ht, plainSeps_snd,
    hroot, resolveFrom_cons _ cur]
  cases walkFrom (if a = true then root else cur) cur (m :: ms) with
  | none => rfl
  | some p =>
    simp only [Option.map_some]
    rw [headerRun_eq, hsep]

theorem renderAbs_mnemonic_head (abs : Option Bytes) {m : Bytes} (hm : isMnemonicText m = true)
    (Y : Bytes) : ∃ b r, renderAbs abs ++ (m ++ Y) = b :: r ∧ isWs b = false ∧ b ≠ 10 ∧ b ≠ 42 := by
  cases abs with
  | some a => exact ⟨58, _, rfl, by decide, by decide, by decide⟩
  | none =>
    obtain ⟨b0, t0, e0, hb0, _⟩ := isMnemonicText_cons hm
    exact ⟨b0, t0 ++ Y, by rw [e0]; rfl, alpha_not_ws hb0,
      (alpha_ne_colon_star_nl hb0).2.2, (alpha_ne_colon_star_nl hb0).2.1⟩

theorem HdrPath.render_head {p : HdrPath} (hw : p.wf = true) :
    ∃ b r, p.render = b :: r ∧ isWs b = false ∧ b ≠ 10 := by
  cases p with
  | compound a ms =>
    obtain ⟨m, ms, rfl, hm, _⟩ := HdrPath.compound_wf hw
    obtain ⟨b, r, e, hb, h10, _⟩ := renderAbs_mnemonic_head (if a then some [] else none) hm
      (renderSeps (plainSeps ms))
    exact ⟨b, r, by rw [render_compound, e], hb, h10⟩
  | common n => exact ⟨42, _, rfl, by decide, by decide⟩

theorem compoundHeader_soft (root cur : Node) {b : Nat} (Y : Bytes) (hw : isWs b = false)
    (h58 : b ≠ 58) (ha : isAlpha b = false) :
    compoundHeader root cur (b :: Y) = .soft (some (.std .InvalidCharacter)) := by
  simp only [compoundHeader, optP, headerSeparator_soft_cons Y hw h58, PResult.bind,
    mnemonic_soft Y ha]

theorem commonHeader_not_star (root : Node) {b : Nat} (Y : Bytes) (hb : b ≠ 42) :
    commonHeader root (b :: Y) = .fatal (.std .UndefinedHeader) := by
  simp only [commonHeader, tag_cons_ne (t := 42) _ hb, PResult.mapErr, ofErr_undefinedHeader,
    PResult.bind]

theorem commandHeader_render (root cur : Node) {p : HdrPath} {tail : Bytes} {e : Option Err}
    (hwf : p.wf = true) (ht : Ends isMnemonicTail tail) (hsep : headerSeparator tail = .soft e) :
    commandHeader root cur (p.render ++ tail) =
      match resolve root cur p with
      | some nh => .ok tail nh
      | none => .fatal (.std .UndefinedHeader) := by
  cases p with
  | compound a ms =>
    obtain ⟨m, ms, rfl, hm, hms⟩ := HdrPath.compound_wf hwf
    unfold commandHeader
    rw [compoundHeader_render root cur a hm hms ht hsep]
    simp only [resolve]
    cases resolveFrom (if a = true then root else cur) (m :: ms) with
    | some nh => rfl
    | none =>
      -- the common form fails on a rendering that starts with `:` or a letter
      obtain ⟨b, r, e, _, _, h42⟩ := renderAbs_mnemonic_head (if a then some [] else none) hm
        (renderSeps (plainSeps ms) ++ tail)
      rw [render_compound, List.append_assoc, List.append_assoc, e]
      exact commonHeader_not_star root _ h42
  | common n =>
    have hn : isMnemonicText n = true := hwf
    have hv : validUtf8 (42 :: n) = true :=
      (validUtf8_cons_ascii (by decide) n).trans (validUtf8_mnemonic hn)
    -- the compound form fails softly on `*` (no colon, no letter); `orElse` then tries the
    -- common form: the `*`, the mnemonic, the lookup of `*n` at the root
    simp only [HdrPath.render, List.cons_append, commandHeader,
      compoundHeader_soft root cur _ (show isWs 42 = false by decide) (by decide) (by decide),
      PResult.orElse, commonHeader, tag_cons_self, PResult.mapErr, PResult.bind,
      mnemonic_append hn ht, lookup_valid _ _ hv, resolve]
    cases root.child (42 :: n) <;> rfl

theorem parse_skip_ws (root cur : Node) {w : Bytes} {b : Nat} (Y : Bytes) (hw : allWs w = true)
    (hb : isWs b = false) (h10 : b ≠ 10) :
    parse root cur (w ++ b :: Y) =
      (commandHeader root cur (b :: Y)).bind fun i3 nh => parseAfterHeader nh i3 := by
  obtain ⟨v, e⟩ := optP_whitespace_append hw (ends_cons (r := Y) hb)
  unfold parse
  rw [e]
  simp only [PResult.bind, optP, tag_cons_ne (t := 10) Y h10, Option.isSome_none,
    Bool.false_eq_true, if_false]

theorem parse_of_compound_not_ok (root cur : Node) {w : Bytes} {b : Nat} {Y : Bytes}
    (hw : allWs w = true) (hbw : isWs b = false) (h10 : b ≠ 10) (h42 : b ≠ 42)
    (hc : ∀ i v, compoundHeader root cur (b :: Y) ≠ .ok i v) :
    parse root cur (w ++ b :: Y) = .fatal (.std .UndefinedHeader) := by
  have hcommon := commonHeader_not_star root Y h42
  rw [parse_skip_ws root cur Y hw hbw h10, commandHeader]
  cases h : compoundHeader root cur (b :: Y) with
  | ok i v => exact absurd h (hc i v)
  | crash c => exact absurd h ((good_compoundHeader root cur (b :: Y)).noCrash c)
  | _ => simp only [PResult.orElse, hcommon, PResult.bind]

end Scpi
