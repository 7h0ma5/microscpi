/-
Definite-length blocks (C08) and the ordered choice of `argument`: the rendering of
every well-formed literal, followed by bytes that do not extend it, is recognised by
the right alternative and delivered as its `Lit.value` (C03 lexer part).
-/
import Scpi.Proofs.RenderLit
import Scpi.Proofs.ConvInt

namespace Scpi

theorem padDigits_length : ∀ (k n : Nat), (padDigits k n).length = k
  | 0, _ => rfl
  | k + 1, n => by
    simp only [padDigits, List.length_append, padDigits_length k, List.length_singleton]

theorem padDigits_all_digit : ∀ (k n : Nat), (padDigits k n).all isDigit = true
  | 0, _ => rfl
  | k + 1, n => by
    have h : isDigit (48 + n % 10) = true := by
      have := Nat.mod_lt n (show 10 > 0 by decide)
      rw [isDigit_iff]
      omega
    simp only [padDigits, List.all_append, padDigits_all_digit k, List.all_cons, h, List.all_nil,
      Bool.and_self]

theorem digitVal_digit {d : Nat} (h : d < 10) : digitVal 10 (48 + d) = some d := by
  have h1 : 48 ≤ 48 + d ∧ 48 + d ≤ 57 := by omega
  simp only [digitVal, h1, and_self, if_true, Nat.add_sub_cancel_left, h]

theorem digitsVal_append_digit {d : Nat} (h : d < 10) (xs : Bytes) (acc : Nat) :
    digitsVal 10 (xs ++ [48 + d]) acc = (digitsVal 10 xs acc).map fun m => m * 10 + d := by
  rw [C03.digitsVal_append]
  cases digitsVal 10 xs acc with
  | none => rfl
  | some m => simp only [Option.bind_some, Option.map_some, digitsVal, digitVal_digit h]

theorem digitsVal_padDigits : ∀ (k n : Nat), digitsVal 10 (padDigits k n) 0 = some (n % 10 ^ k)
  | 0, n => by simp only [padDigits, digitsVal, Nat.pow_zero, Nat.mod_one]
  | k + 1, n => by
    have hlt := Nat.mod_lt n (show 10 > 0 by decide)
    rw [padDigits, digitsVal_append_digit hlt, digitsVal_padDigits k (n / 10), Option.map_some,
      Nat.pow_succ, Nat.mul_comm (10 ^ k) 10, Nat.mod_mul, Nat.add_comm, Nat.mul_comm]

/-- `usize::from_str_radix(s, 10)` of a non-empty digit string of value below `2^64` on a
64-bit target. -/
theorem fromStrRadix_digits {s : Bytes} {m : Nat} (hne : s ≠ [])
    (hv : digitsVal 10 s 0 = some m) (hm : m < 2 ^ 64) :
    fromStrRadix false 64 10 s = some (m : Int) := by
  obtain ⟨ds, hd, rfl⟩ := C03.digitsVal_zero_eq_some.mp hv
  refine (C03.fromStrRadix_eq_some_iff false 64 10 s _).mpr ⟨.unsignedDigits s ds hne hd, ?_⟩
  have : (0 : Int) ≤ (C03.digitsValue 10 ds : Int) ∧
      (C03.digitsValue 10 ds : Int) ≤ ((2 ^ 64 : Nat) : Int) - 1 := by omega
  simpa only [intMin, intMax, Bool.false_eq_true, if_false] using this

theorem arbitrary_render {nd : Nat} (payload rest : Bytes) (h1 : 1 ≤ nd) (h9 : nd ≤ 9)
    (hl : payload.length < 10 ^ nd) :
    arbitrary (35 :: (48 + nd) :: (padDigits nd payload.length ++ (payload ++ rest)))
      = .ok rest (.arb payload) := by
  have hc : (decide (49 ≤ 48 + nd) && decide (48 + nd ≤ 57)) = true := by
    simp only [Bool.and_eq_true, decide_eq_true_eq]
    omega
  have hlen := padDigits_length nd payload.length
  have hne : padDigits nd payload.length ≠ [] := by
    intro e
    rw [e, List.length_nil] at hlen
    omega
  have hdig := padDigits_all_digit nd payload.length
  have hval : digitsVal 10 (padDigits nd payload.length) 0 = some payload.length := by
    rw [digitsVal_padDigits, Nat.mod_eq_of_lt hl]
  have h64 : payload.length < 2 ^ 64 :=
    Nat.lt_of_lt_of_le hl (Nat.le_trans (Nat.pow_le_pow_right (by decide) h9) (by decide))
  have hfs := fromStrRadix_digits hne hval h64
  have hutf : validUtf8 (padDigits nd payload.length) = true :=
    validUtf8_of_all (fun b => isDigit_lt) hdig
  have hnl : ¬ (padDigits nd payload.length ++ (payload ++ rest)).length < nd := by
    simp only [List.length_append, hlen]
    omega
  have hpl : ¬ (payload ++ rest).length < payload.length := by
    simp only [List.length_append]
    omega
  simp only [arbitrary_cons, beq_self_eq_true, if_true, hc, Nat.add_sub_cancel_left, blockBody, hnl,
    if_false, List.take_left' hlen, List.drop_left' hlen, hutf, Bool.not_true, Bool.false_eq_true,
    hfs, Int.toNat_natCast, blockPayload, hpl, List.take_left' rfl, List.drop_left' rfl]

theorem characters_dec_soft {d : DecText} (rest : Bytes) (hw : d.wf = true) :
    characters (d.render ++ rest) = .soft (some (.std .InvalidCharacter)) := by
  obtain ⟨b, r, e, hb⟩ := DecText.render_head hw
  rw [isDigit_iff] at hb
  rw [e]
  exact characters_soft _ (eq_false_of_iff (isAlpha_iff b) (by omega))

theorem argument_str {q : Nat} {payload : Bytes} (rest : Bytes) (hq : q = 39 ∨ q = 34)
    (hv : validUtf8 payload = true) (hp : payload.all (fun c => c != q) = true) :
    argument (q :: (payload ++ q :: rest)) = .ok rest (.str payload) := by
  rw [argument_quote _ hq, quoted_render q rest hv hp]
  rfl

theorem block_not_nondecimal {nd : Nat} (r : Bytes) (h9 : nd ≤ 9) :
    hexadecimal (35 :: (48 + nd) :: r) = .soft (some (.std .InvalidCharacter)) ∧
    binary (35 :: (48 + nd) :: r) = .soft (some (.std .InvalidCharacter)) ∧
    octal (35 :: (48 + nd) :: r) = .soft (some (.std .InvalidCharacter)) := by
  have h : ∀ a b : Nat, 57 < a → 57 < b → ((48 + nd == a) || (48 + nd == b)) = false := by
    intro a b ha hb
    simp only [Bool.or_eq_false_iff, beq_eq_false_iff_ne]
    omega
  exact ⟨nondecimal_soft_letter _ r (h 72 104 (by decide) (by decide)),
    nondecimal_soft_letter _ r (h 66 98 (by decide) (by decide)),
    nondecimal_soft_letter _ r (h 81 113 (by decide) (by decide))⟩

theorem argument_block {nd : Nat} (payload rest : Bytes) (h1 : 1 ≤ nd) (h9 : nd ≤ 9)
    (hl : payload.length < 10 ^ nd) :
    argument (35 :: (48 + nd) :: (padDigits nd payload.length ++ (payload ++ rest)))
      = .ok rest (.arb payload) := by
  obtain ⟨e1, e2, e3⟩ := block_not_nondecimal (padDigits nd payload.length ++ (payload ++ rest)) h9
  rw [argument_hash, e1, e2, e3, arbitrary_render payload rest h1 h9 hl]
  rfl

theorem argument_render {l : Lit} {rest : Bytes} (hw : l.wf = true) (he : Ends l.ext rest) :
    argument (l.render ++ rest) = .ok rest l.value := by
  cases l with
  | chars s => simp only [Lit.render, Lit.value, argument, characters_append hw he, PResult.orNext]
  | dec d =>
    simp only [Lit.render, Lit.value, argument, characters_dec_soft rest hw, decimal_render hw he,
      PResult.orNext]
  | hex up ds =>
    simp only [Lit.wf, Bool.and_eq_true, Bool.not_eq_true', List.isEmpty_eq_false_iff] at hw
    rw [Lit.render, List.cons_append, List.cons_append, argument_hash, hexadecimal,
      nondecimal_render .hex (by cases up <;> rfl) hw.1 hw.2 (fun b => isHexDigit_lt) he]
    rfl
  | bin up ds =>
    simp only [Lit.wf, Bool.and_eq_true, Bool.not_eq_true', List.isEmpty_eq_false_iff] at hw
    rw [Lit.render, List.cons_append, List.cons_append, argument_hash, hexadecimal, binary,
      nondecimal_soft_letter _ _ (by cases up <;> rfl),
      nondecimal_render .bin (by cases up <;> rfl) hw.1 hw.2 (fun b => isBinDigit_lt) he]
    rfl
  | oct up ds =>
    simp only [Lit.wf, Bool.and_eq_true, Bool.not_eq_true', List.isEmpty_eq_false_iff] at hw
    rw [Lit.render, List.cons_append, List.cons_append, argument_hash, hexadecimal, binary, octal,
      nondecimal_soft_letter _ _ (by cases up <;> rfl),
      nondecimal_soft_letter _ _ (by cases up <;> rfl),
      nondecimal_render .oct (by cases up <;> rfl) hw.1 hw.2 (fun b => isOctDigit_lt) he]
    rfl
  | str q p =>
    simp only [Lit.wf, Bool.and_eq_true, Bool.or_eq_true, beq_iff_eq] at hw
    have := argument_str rest hw.1.1 hw.1.2 hw.2
    simpa only [Lit.render, Lit.value, List.cons_append, List.append_assoc, List.nil_append]
      using this
  | block nd p =>
    simp only [Lit.wf, Bool.and_eq_true, decide_eq_true_eq] at hw
    have := argument_block p rest hw.1.1 hw.1.2 hw.2
    simpa only [Lit.render, Lit.value, List.cons_append, List.append_assoc] using this

theorem not_separator_of_ge {b : Nat} (h : 33 ≤ b ∧ b ≠ 44 ∧ b ≠ 58 ∧ b ≠ 63 ∧ b ≠ 59) :
    isWs b = false ∧ b ≠ 44 ∧ b ≠ 58 ∧ b ≠ 63 ∧ b ≠ 59 ∧ b ≠ 10 :=
  ⟨eq_false_of_iff (isWs_iff b) (by omega), h.2.1, h.2.2.1, h.2.2.2.1, h.2.2.2.2, by omega⟩

theorem Lit.render_head {l : Lit} (hw : l.wf = true) :
    ∃ b r, l.render = b :: r ∧ isWs b = false ∧ b ≠ 44 ∧ b ≠ 58 ∧ b ≠ 63 ∧ b ≠ 59 ∧ b ≠ 10 := by
  cases l with
  | chars s =>
    obtain ⟨b, t, e, hb, _⟩ := isMnemonicText_cons hw
    rw [isAlpha_iff] at hb
    exact ⟨b, t, e, not_separator_of_ge (by omega)⟩
  | dec d =>
    obtain ⟨b, r, e, hb⟩ := DecText.render_head hw
    rw [isDigit_iff] at hb
    exact ⟨b, r, e, not_separator_of_ge (by omega)⟩
  | hex up ds => exact ⟨35, _, rfl, not_separator_of_ge (by decide)⟩
  | bin up ds => exact ⟨35, _, rfl, not_separator_of_ge (by decide)⟩
  | oct up ds => exact ⟨35, _, rfl, not_separator_of_ge (by decide)⟩
  | str q p =>
    simp only [Lit.wf, Bool.and_eq_true, Bool.or_eq_true, beq_iff_eq] at hw
    exact ⟨q, _, rfl, not_separator_of_ge (by omega)⟩
  | block nd p => exact ⟨35, _, rfl, not_separator_of_ge (by decide)⟩

theorem ends_ws_lit {l : Lit} (hw : l.wf = true) (Y : Bytes) : Ends isWs (l.render ++ Y) := by
  obtain ⟨b, r, e, hb, _⟩ := Lit.render_head hw
  rw [e]
  exact ends_cons hb

end Scpi
