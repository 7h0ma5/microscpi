/-
`run` on a message of one parameterless unit with a compound header, any rendering:
`Scpi.C01.dispatch_header`, with `specUnit` on the node reached spelled out as the generated
`execute_command` for the id in the slot (`execId`).  The statement holds for every interface,
hence for the tracing and the logging wrapper of an interface too: that is how the events and
the error log of the run are obtained.
-/
import Scpi.Proofs.E2EQueue
import Scpi.Props.RunRenderCor

namespace Scpi
namespace E2E

def hdrUnit (a : Bool) (ns : List Bytes) (q : Bool) : MsgUnit :=
  { hdr := { path := .compound a ns, query := q }, lits := [] }

/-- `execute` once the slot has been found to hold command `id`, for a unit without parameters:
the generated `execute_command`, then, for a query that succeeded, the newline and the flush. -/
def execId {σ : Type} (I : Iface σ) (id : Nat) (q : Bool) (w : Writer) (s : σ) : σ × Writer × ExecRes :=
  match executeCommand I id [] w s with
  | (s', w', .ok) =>
    if q then
      match w'.call (.direct [10]) with
      | (w'', .ok ()) => (s', w''.flush, .ok)
      | (w'', .error e) => (s', w'', .err e)
    else (s', w', .ok)
  | r => r

/-- `execute` reads node, query flag and arguments only; the call the parser delivers for a
header-only unit has the parent of `node` as `header`. -/
def hdrCall (node : Node) (q : Bool) : CommandCall :=
  { node := node, header := none, query := q, args := [], terminated := true }

/-- The outcome of a run that consumed a whole message in which `r` was executed. -/
def ranExec {σ : Type} (I : Iface σ) (r : σ × Writer × ExecRes) : RunOut σ :=
  Msg.finished I (r.2.1, reportExec I r.1 r.2.2)

section
variable {σ : Type} (I : Iface σ)

theorem execute_hdrCall (node : Node) (q : Bool) (w : Writer) (s : σ) :
    execute I (hdrCall node q) w s =
      match slot q node with
      | some id => execId I id q w s
      | none => (s, w, .err (.std .UndefinedHeader)) := by
  show (match slot q node with
    | none => _
    | some id => _) = _
  cases slot q node with
  | none => rfl
  | some id => rfl

theorem run_header_call (a : Bool) (ns : List Bytes) (q : Bool) (ℓ : Lex) (w : Writer) (s : σ)
    (hu : (hdrUnit a ns q).wf = true) (hℓ : ℓ.wf = true) :
    run I (render (hdrUnit a ns q) ℓ .nl) w s =
      match childWalk I.root ns with
      | some node => ranExec I (execute I (hdrCall node q) w s)
      | none => ranExec I (s, w, .err (.std .UndefinedHeader)) := by
  have h := C01.dispatch_header I (hdrUnit a ns q) ℓ w s a ns rfl rfl hu hℓ
  rw [show Msg.renderMsg [(hdrUnit a ns q, ℓ)] = render (hdrUnit a ns q) ℓ .nl from rfl] at h
  rw [h]
  cases childWalk I.root ns with
  | none => rfl
  | some node => exact congrArg (Msg.finished I) (Msg.specUnit_eq_execute I (hdrCall node q) w s)

theorem run_header (a : Bool) (ns : List Bytes) (q : Bool) (ℓ : Lex) (w : Writer) (s : σ)
    (hu : (hdrUnit a ns q).wf = true) (hℓ : ℓ.wf = true) :
    run I (render (hdrUnit a ns q) ℓ .nl) w s =
      ranExec I (match (childWalk I.root ns).bind (slot q) with
        | some id => execId I id q w s
        | none => (s, w, .err (.std .UndefinedHeader))) := by
  rw [run_header_call I a ns q ℓ w s hu hℓ]
  cases childWalk I.root ns with
  | none => rfl
  | some node => exact congrArg (ranExec I) (execute_hdrCall I node q w s)

theorem events_header (a : Bool) (ns : List Bytes) (q : Bool) (ℓ : Lex) (w : Writer) (s : σ)
    (hu : (hdrUnit a ns q).wf = true) (hℓ : ℓ.wf = true) :
    eventsOf I I.root (render (hdrUnit a ns q) ℓ .nl) w s =
      match (childWalk I.root ns).bind (slot q) with
      | some id =>
        (match I.cmds[id]? with
         | some c => if c.argTys = [] then [Ev.call id []] else []
         | none => []) ++
        (match (execId I id q w s).2.2 with
         | .err e => [Ev.error e]
         | _ => [])
      | none => [Ev.error (.std .UndefinedHeader)] := by
  rw [eventsOf_eq_traced]
  show (run I.traced _ w (s, [])).s.2 = _
  rw [run_header_call I.traced a ns q ℓ w (s, []) hu hℓ, show I.traced.root = I.root from rfl]
  cases childWalk I.root ns with
  | none => rfl
  | some node =>
    simp only [Option.bind_some]
    rw [show execute I.traced = execute (I.instrument fcEv feEv) from rfl, execute_instrument,
      execute_hdrCall, invocation,
      show unitSlot (hdrCall node q) = slot q node from unitSlot_eq_slot _]
    -- the invocation of a call without arguments: the handler in the slot, if it takes none
    cases slot q node with
    | none => rfl
    | some id =>
      dsimp only
      cases I.cmds[id]? with
      | none => cases (execId I id q w s).2.2 <;> rfl
      | some c =>
        dsimp only
        cases c.argTys <;> cases (execId I id q w s).2.2 <;> rfl

end

end E2E
end Scpi
