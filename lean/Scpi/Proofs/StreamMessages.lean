/-
Resuming `run_from`, and where the stream machine stands between messages.

When `run_from` stops at an unfinished unit, the bytes it returns and the header path it reached are
all that is needed to continue (`runFrom_split`): every unit before it got a final verdict (parser
finality, C12), and after a syntax error the interpreter skips to the first newline of the remaining
input, which exists because the input ends with one.  So after any bytes the stream machine stands
where one `run_from` over all of them stands (`feed_pos`), and after a newline-terminated input that
fits in the command buffer and that `run` consumes entirely it stands between messages
(`stream_closed`).
-/
import Scpi.Props.C02Isolation
import Scpi.Proofs.StreamMachine

namespace Scpi

/-- The newline that ends `x` may have ended a message (`rest = []`, the path is the root again) or
lie inside a string or block payload (`rest ≠ []`). -/
theorem runFrom_split {σ : Type} (I : Iface σ) (h : Node) (x : Bytes) (w : Writer) (s : σ)
    (hx : x.getLast? = some 10) (y : Bytes) :
    runFrom I h (x ++ y) w s =
      runFrom I (runFrom I h x w s).header ((runFrom I h x w s).rest ++ y)
        (runFrom I h x w s).w (runFrom I h x w s).s :=
  runFrom_split_at_nl I parseFinalOk parseFinalErr ⟨h, x, w, s⟩ (fun _ => hx) y

/-- T8.2, resuming at an unfinished unit: the newline lies inside a string or block payload. -/
theorem runFrom_resume {σ : Type} (I : Iface σ) (h : Node) (x : Bytes) (w : Writer) (s : σ)
    (hx : x.getLast? = some 10) (hrest : (runFrom I h x w s).rest ≠ []) (y : Bytes) :
    runFrom I h (x ++ y) w s =
      runFrom I (runFrom I h x w s).header ((runFrom I h x w s).rest ++ y)
        (runFrom I h x w s).w (runFrom I h x w s).s :=
  -- `hrest` is not needed: `runFrom_split` covers `rest = []` as well
  (fun _ => runFrom_split I h x w s hx y) hrest

variable {σ : Type} (I : Iface σ) (n : Nat)

theorem pos_of_getLast_fits {m : Bytes} {n : Nat} (hm : m.getLast? = some 10)
    (hfit : m.length ≤ n) : 1 ≤ n := by
  obtain ⟨m', rfl⟩ := List.getLast?_eq_some_iff.1 hm
  rw [List.length_append] at hfit
  exact Nat.le_trans (Nat.le_add_left _ _) hfit

theorem foldl_spec_of_pending_nil (l : Bytes) (st : SpecState σ) (hp : st.pending = [])
    (hn : 1 ≤ n) (hfit : l.length ≤ n) :
    l.foldl (streamSpec I n) st = streamDiscard I n (l.foldl (streamFeed I n) st) :=
  foldl_spec_chunk I n l st (by rw [hp]; exact hn)
    (by rw [hp]; exact (Nat.zero_add _).symm ▸ hfit)

theorem foldl_spec_nl {σ : Type} (I : Iface σ) (n : Nat) (m' : Bytes) (st : SpecState σ)
    (hp : st.pending = []) (hfit : (m' ++ [10]).length ≤ n) :
    (m' ++ [10]).foldl (streamSpec I n) st =
      streamDiscard I n (streamNewline I n
        { m'.foldl (streamFeed I n) st with
          pending := (m'.foldl (streamFeed I n) st).pending ++ [10] }) := by
  rw [foldl_spec_of_pending_nil I n _ st hp (pos_of_getLast_fits List.getLast?_concat hfit) hfit,
    List.foldl_append, List.foldl_cons, List.foldl_nil, streamFeed_nl]

theorem stream_message (m : Bytes) (st : SpecState σ)
    (hm : IsMessage I n m) (hp : st.pending = []) (hh : st.header = I.root) :
    m.foldl (streamSpec I n) st =
      ⟨[], I.root, (run I m { cap := some n } st.user).s,
       st.out ++ (if (run I m { cap := some n } st.user).w.buf = [] then []
                  else [PEv.w (run I m { cap := some n } st.user).w.buf, PEv.f])⟩ := by
  obtain ⟨⟨body, rfl, hb⟩, hfit, hc⟩ := hm
  have hc' := hc { cap := some n } st.user
  unfold run at hc' ⊢
  have hr := (C02.run_append_message_closed I I.root (body ++ [10]) { cap := some n } st.user
    List.getLast?_concat hc').1
  rw [foldl_spec_nl I n body st hp hfit, foldl_feed_plain I n body st hb]
  simp only [streamNewline, hp, hh, List.nil_append, hc', hr]
  exact streamDiscard_id I n _ (pos_of_getLast_fits List.getLast?_concat hfit)

theorem stream_messages (msgs : List Bytes) (st : SpecState σ)
    (hall : ∀ m ∈ msgs, IsMessage I n m) (hp : st.pending = []) (hh : st.header = I.root) :
    msgs.flatten.foldl (streamSpec I n) st =
      ⟨[], I.root, (runMessages I n msgs st.user st.out).1,
        (runMessages I n msgs st.user st.out).2⟩ := by
  induction msgs generalizing st with
  | nil =>
    rw [← hp, ← hh]
    rfl
  | cons m ms ih =>
    rw [List.flatten_cons, List.foldl_append,
      stream_message I n m st (hall m List.mem_cons_self) hp hh,
      ih _ (fun x hx => hall x (List.mem_cons_of_mem _ hx)) rfl rfl]
    rfl

/-- The two sides run with unrelated writers and user states: where a run stands does not depend on
them (`runFrom_pos_indep`), and the machine starts each `run_from` with a fresh writer. -/
theorem feed_pos (l : Bytes) (st : SpecState σ) (y : Bytes) (w w' : Writer) (s s' : σ) :
    (runFrom I st.header (st.pending ++ (l ++ y)) w s).rest =
      (runFrom I (l.foldl (streamFeed I n) st).header
        ((l.foldl (streamFeed I n) st).pending ++ y) w' s').rest ∧
    (runFrom I st.header (st.pending ++ (l ++ y)) w s).header =
      (runFrom I (l.foldl (streamFeed I n) st).header
        ((l.foldl (streamFeed I n) st).pending ++ y) w' s').header := by
  induction l generalizing st w s with
  | nil => exact runFrom_pos_indep I _ _ _ _ _ _
  | cons b l ih =>
    rw [List.foldl_cons, List.cons_append, List.append_cons]
    by_cases hb : b = 10
    · subst hb
      -- the machine calls `run_from` here; the reference run may be cut at this newline
      have h := runFrom_pos_indep I st.header (st.pending ++ [10] ++ (l ++ y)) w
        { cap := some n } s st.user
      rw [h.1, h.2,
        runFrom_split I st.header (st.pending ++ [10]) _ _ List.getLast?_concat (l ++ y)]
      exact ih (streamFeed I n st 10) _ _
    · rw [streamFeed_ne I n st hb]
      exact ih { st with pending := st.pending ++ [b] } w s

/-- `m` may be one complete message or several, faulty or not, with newlines inside string or block
payloads; `w₀` and `s₀` are arbitrary, since the position does not depend on them. -/
theorem stream_closed (m : Bytes) (st : SpecState σ) (w₀ : Writer) (s₀ : σ)
    (hm : m.getLast? = some 10) (hfit : m.length ≤ n) (hc : (run I m w₀ s₀).rest = [])
    (hp : st.pending = []) (hh : st.header = I.root) :
    m.foldl (streamSpec I n) st = m.foldl (streamFeed I n) st ∧
    (m.foldl (streamFeed I n) st).pending = [] ∧
    (m.foldl (streamFeed I n) st).header = I.root := by
  have hn := pos_of_getLast_fits hm hfit
  obtain ⟨m', rfl⟩ := List.getLast?_eq_some_iff.1 hm
  have hroot := (C02.run_append_message_closed I I.root (m' ++ [10]) w₀ s₀ hm hc).1
  -- at its last byte the machine runs on what is pending after `m'` and the newline, and
  -- stands where the run over all of `m` stands (`feed_pos`): at the end, path at the root
  have hpos := feed_pos I n m' st [10] w₀ { cap := some n } s₀
    (m'.foldl (streamFeed I n) st).user
  rw [hp, hh, List.nil_append] at hpos
  unfold run at hc
  rw [hc, hroot] at hpos
  have hcl : ((m' ++ [10]).foldl (streamFeed I n) st).pending = [] ∧
      ((m' ++ [10]).foldl (streamFeed I n) st).header = I.root := by
    rw [List.foldl_append, List.foldl_cons, List.foldl_nil, streamFeed_nl]
    exact ⟨hpos.1.symm, hpos.2.symm⟩
  refine ⟨?_, hcl⟩
  rw [foldl_spec_of_pending_nil I n _ st hp hn hfit]
  exact streamDiscard_id I n _ (by rw [hcl.1]; exact hn)

def SpecState.addOut {σ : Type} (o : List PEv) (st : SpecState σ) : SpecState σ :=
  { st with out := o ++ st.out }

theorem SpecState.eq_addOut_streamInit (st : SpecState σ) (hp : st.pending = [])
    (hh : st.header = I.root) : st = (streamInit I st.user).addOut st.out := by
  obtain ⟨_, _, u, o⟩ := st
  cases hp
  cases hh
  rw [SpecState.addOut, streamInit, List.append_nil]

theorem streamFeed_addOut (o : List PEv) (st : SpecState σ) (b : Nat) :
    streamFeed I n (st.addOut o) b = (streamFeed I n st b).addOut o := by
  by_cases hb : b = 10
  · subst hb
    simp only [streamFeed_nl, streamNewline, SpecState.addOut, List.append_assoc]
  · rw [streamFeed_ne I n _ hb, streamFeed_ne I n _ hb]
    rfl

theorem streamDiscard_addOut (o : List PEv) (st : SpecState σ) :
    streamDiscard I n (st.addOut o) = (streamDiscard I n st).addOut o := by
  unfold streamDiscard
  by_cases h : st.pending.length ≥ n
  · rw [if_pos h, if_pos (by exact h)]; rfl
  · rw [if_neg h, if_neg (by exact h)]

theorem streamSpec_addOut (o : List PEv) (st : SpecState σ) (b : Nat) :
    streamSpec I n (st.addOut o) b = (streamSpec I n st b).addOut o := by
  unfold streamSpec
  rw [streamFeed_addOut, streamDiscard_addOut]

theorem foldl_spec_addOut (o : List PEv) (l : Bytes) (st : SpecState σ) :
    l.foldl (streamSpec I n) (st.addOut o) = (l.foldl (streamSpec I n) st).addOut o := by
  induction l generalizing st with
  | nil => rfl
  | cons b l ih => rw [List.foldl_cons, List.foldl_cons, streamSpec_addOut, ih]

theorem stream_junk (j : Bytes) (st : SpecState σ) (hj : ∀ b ∈ j, b ≠ 10)
    (hlen : st.pending.length + j.length = n) (hne : j ≠ []) :
    j.foldl (streamSpec I n) st = ⟨[], I.root, st.user, st.out⟩ := by
  have := List.length_pos_iff.2 hne
  rw [foldl_spec_chunk I n j st (by omega) (by omega), foldl_feed_plain I n j st hj]
  exact if_pos (by rw [List.length_append, hlen]; exact Nat.le_refl n)

end Scpi
