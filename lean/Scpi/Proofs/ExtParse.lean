/-
Extension stability of the class-bounded recognisers (for C12): the lexical ones and the
header recognisers are `CB`; then the parts of `parse` around the parameter list: the query
mark and the end of the unit.
-/
import Scpi.Proofs.ExtComb

namespace Scpi

theorem cb_whitespace : CB whitespace := by
  intro x y hT
  have hd := hasTerm_dropWhile (p := isWs) (by decide) hT
  obtain ⟨e1, e2⟩ := dropWhile_takeWhile_append_of_ne_nil (p := isWs) y hd.ne_nil
  unfold whitespace
  rw [e1, e2]
  cases hr : x.dropWhile isWs with
  | nil => exact absurd hr hd.ne_nil
  | cons c d =>
    rw [hr] at hd
    cases ht : x.takeWhile isWs with
    | nil => exact rel_ofErr
    | cons t ts => exact rel_ok hd

theorem cb_lead1 {p q : Nat → Bool} (hp : NoTerm p) (hq : NoTerm q) : CB (lead1 p q) := by
  intro x y hT
  refine rel_bind (cb_satisfy hp x y hT) fun i1 b _ h1 => ?_
  refine rel_bind (cb_takeWhileP hq i1 y h1) fun i2 res _ h2 => ?_
  exact rel_ok h2

theorem cb_digits : CB digits := cb_lead1 (by decide) (by decide)
theorem cb_mnemonic : CB mnemonic := cb_lead1 (by decide) (by decide)

theorem cb_sign : CB sign := sign_eq_satisfy ▸ cb_satisfy (by decide)

theorem cb_characters : CB characters := by
  intro x y hT
  unfold characters
  refine rel_bind (cb_mnemonic x y hT) fun i res _ h => ?_
  exact rel_fromUtf8 fun s => rel_ok h

theorem cb_mantissa : CB mantissa := by
  intro x y hT
  unfold mantissa
  refine rel_bind (cb_optP cb_sign x y hT) fun i1 _ _ h1 => ?_
  refine rel_bind (cb_optP cb_digits i1 y h1) fun i2 d1 _ h2 => ?_
  refine rel_bind (cb_optP (cb_tag (by decide)) i2 y h2) fun i3 _ _ h3 => ?_
  refine rel_bind ?_ fun i4 _ _ h4 => ?_
  · cases d1 with
    | none => exact rel_map (cb_digits i3 y h3)
    | some d => exact cb_optP cb_digits i3 y h3
  · exact rel_consumed fun s => rel_ok h4

theorem cb_exponent : CB exponent := by
  intro x y hT
  unfold exponent
  refine rel_bind (cb_satisfy (by decide) x y hT) fun i1 _ _ h1 => ?_
  refine rel_bind (cb_optP cb_sign i1 y h1) fun i2 _ _ h2 => ?_
  refine rel_bind (cb_digits i2 y h2) fun i3 _ _ h3 => ?_
  exact rel_consumed fun s => rel_ok h3

theorem cb_decimal : CB decimal := by
  intro x y hT
  unfold decimal
  refine rel_bind (cb_mantissa x y hT) fun i1 _ _ h1 => ?_
  refine rel_bind (cb_optP cb_exponent i1 y h1) fun i2 _ _ h2 => ?_
  exact rel_consumed fun s => rel_fromUtf8 fun s => rel_ok h2

theorem cb_nondecimal {l d : Nat → Bool} (mk : Bytes → Value)
    (hl : NoTerm l) (hd : NoTerm d) :
    CB (nondecimal l d mk) := by
  intro x y hT
  unfold nondecimal
  refine rel_bind (cb_tag (by decide) x y hT) fun i1 _ _ h1 => ?_
  refine rel_bind (cb_satisfy hl i1 y h1) fun i2 _ _ h2 => ?_
  refine rel_bind (cb_satisfy hd i2 y h2) fun i3 _ _ h3 => ?_
  refine rel_bind (cb_takeWhileP hd i3 y h3) fun i4 _ _ h4 => ?_
  exact rel_consumed fun s => rel_fromUtf8 fun s => rel_ok h4

theorem cb_hexadecimal : CB hexadecimal :=
  cb_nondecimal _ (by decide) (by decide)
theorem cb_binary : CB binary :=
  cb_nondecimal _ (by decide) (by decide)
theorem cb_octal : CB octal :=
  cb_nondecimal _ (by decide) (by decide)

theorem cb_separator {t : Nat} (e : StdErr) (ht : t ≠ 10 ∧ t ≠ 59) : CB (separator t e) := by
  intro x y hT
  refine rel_bind (cb_optP cb_whitespace x y hT) fun i1 _ _ h1 => ?_
  refine rel_bind (rel_mapErr (cb_tag ht i1 y h1)) fun i2 _ _ h2 => ?_
  refine rel_bind (cb_optP cb_whitespace i2 y h2) fun i3 _ _ h3 => ?_
  exact rel_ok h3

theorem cb_argumentSeparator : CB argumentSeparator := cb_separator _ (by decide)
theorem cb_headerSeparator : CB headerSeparator := cb_separator _ (by decide)

theorem argumentSeparator_nil : argumentSeparator [] = .soft (some (.std .InvalidSeparator)) :=
  rfl

theorem rel_lookup {α : Type} {y : Bytes} {node : Node} {name : Bytes} {k k' : Node → PResult α}
    (hk : ∀ n, Rel y (k n) (k' n)) : Rel y (lookup node name k) (lookup node name k') := by
  unfold lookup
  refine rel_fromUtf8 fun s => ?_
  split
  · exact hk _
  · exact rel_ofErr

theorem cb_commonHeader (root : Node) : CB (commonHeader root) := by
  intro x y hT
  unfold commonHeader
  refine rel_bind (rel_mapErr (cb_tag (by decide) x y hT)) fun i1 star _ h1 => ?_
  refine rel_bind (cb_mnemonic i1 y h1) fun i2 res _ h2 => ?_
  exact rel_lookup fun n => rel_ok h2

theorem headerRun_rel (y : Bytes) : ∀ (node header : Node) (x : Bytes), HasTerm x →
    Rel y (headerRun node header x) (headerRun node header (x ++ y)) := by
  refine headerRun_induct fun node header x ih hT => ?_
  have hs := cb_headerSeparator x y hT
  rw [headerRun_eq node header x, headerRun_eq node header (x ++ y), hs.ext]
  cases hsep : headerSeparator x with
  | ok i u =>
    simp only [extend_ok]
    refine rel_bind (cb_mnemonic i y (hs.keep _ _ hsep)) fun i2 res e2 h2 => ?_
    exact rel_lookup fun child => ih i u i2 res child hsep e2 h2
  | soft e => exact rel_ok hT
  | _ => exact ⟨rfl, fun _ _ h => by cases h⟩

theorem cb_compoundHeader (root header : Node) : CB (compoundHeader root header) := by
  intro x y hT
  unfold compoundHeader
  refine rel_bind (cb_optP cb_headerSeparator x y hT) fun i1 rc _ h1 => ?_
  simp only []
  refine rel_bind (cb_mnemonic i1 y h1) fun i2 res _ h2 => ?_
  exact rel_lookup fun n => headerRun_rel y n _ i2 h2

theorem cb_commandHeader (root header : Node) : CB (commandHeader root header) := by
  intro x y hT
  unfold commandHeader
  exact rel_orElse (cb_compoundHeader root header x y hT) (cb_commonHeader root x y hT)

theorem parseTail_ext (nh : Node × Option Node) (q : Bool) (args : List Value) {i6 : Bytes}
    (hT : HasTerm i6) (y : Bytes) :
    parseTail nh q (i6 ++ y) args = (parseTail nh q i6 args).extend y := by
  have hw := cb_optP cb_whitespace i6 y hT
  unfold parseTail
  refine ext_bind hw.ext fun i7 _ h7 => ?_
  -- the terminator is consumed here: `tag` looks at the first byte of `i7`, which is there
  have hne := (hw.keep _ _ h7).ne_nil
  refine ext_bind ?_ fun i8 t h8 => rfl
  exact ext_orElse (ext_map (satisfy_ext y hne)) (ext_map (satisfy_ext y hne))

theorem queryMark_ext {i3 : Bytes} (hT : HasTerm i3) (y : Bytes) :
    queryMark (i3 ++ y) = ((queryMark i3).1 ++ y, (queryMark i3).2) ∧
      HasTerm (queryMark i3).1 := by
  have hs := cb_tag (t := 63) (by decide) i3 y hT
  unfold queryMark
  rw [hs.ext]
  cases ht : tag 63 i3 with
  | ok r v => exact ⟨rfl, hs.keep _ _ ht⟩
  | _ => exact ⟨rfl, hT⟩

end Scpi
