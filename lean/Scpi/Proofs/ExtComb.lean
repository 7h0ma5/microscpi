/-
Stability of parse results under appending bytes to the input (for C12).  `r.extend y` is what
`r` becomes when `y` is appended and the parser never looked at the end of the old input.
Class-bounded recognisers (`CB`) scan a class that contains neither terminator (`\n`, `;`); on
an input that still contains one (`HasTerm`) they stop before it, so every verdict is unchanged
and the rest still contains a terminator (`Rel`).  Where a terminator may be consumed (the end
of a unit, a closing quote) only `a' = a.extend y` holds (`ext_*`).
-/
import Scpi.Proofs.GoodParse

namespace Scpi

def PResult.extend {α : Type} (r : PResult α) (y : Bytes) : PResult α :=
  match r with
  | .ok rest v => .ok (rest ++ y) v
  | .soft e => .soft e
  | .fatal e => .fatal e
  | .incomplete => .incomplete
  | .crash c => .crash c

@[simp] theorem extend_ok {α : Type} (r y : Bytes) (v : α) :
    (PResult.ok r v).extend y = .ok (r ++ y) v := rfl
@[simp] theorem extend_soft {α : Type} (e : Option Err) (y : Bytes) :
    (PResult.soft e : PResult α).extend y = .soft e := rfl
@[simp] theorem extend_fatal {α : Type} (e : Err) (y : Bytes) :
    (PResult.fatal e : PResult α).extend y = .fatal e := rfl
@[simp] theorem extend_incomplete {α : Type} (y : Bytes) :
    (PResult.incomplete : PResult α).extend y = .incomplete := rfl
@[simp] theorem extend_crash {α : Type} (c : Crash) (y : Bytes) :
    (PResult.crash c : PResult α).extend y = .crash c := rfl

@[simp] theorem extend_ofErr {α : Type} (e : StdErr) (y : Bytes) :
    (ofErr e : PResult α).extend y = ofErr e := by
  unfold ofErr
  split <;> rfl

def HasTerm (x : Bytes) : Prop := 10 ∈ x ∨ 59 ∈ x

def EndsNL (x : Bytes) : Prop := x.getLast? = some 10

theorem HasTerm.ne_nil {x : Bytes} (h : HasTerm x) : x ≠ [] :=
  h.elim List.ne_nil_of_mem List.ne_nil_of_mem

/-- `EndsT x` and `EndsNL x` speak of the last byte of `x`; `Ends p rest` and `DelimHead rest`
speak of the first byte of `rest`. -/
def EndsT (x : Bytes) : Prop := x.getLast? = some 10 ∨ x.getLast? = some 59

theorem EndsT.hasTerm {x : Bytes} (h : EndsT x) : HasTerm x :=
  h.elim (fun h => Or.inl (List.mem_of_getLast? h)) (fun h => Or.inr (List.mem_of_getLast? h))

theorem suffix_getLast {r x : Bytes} {b : Nat} (hs : r <:+ x) (hne : r ≠ [])
    (hx : x.getLast? = some b) : r.getLast? = some b := by
  rw [List.getLast?_eq_some_getLast hne, hs.getLast hne, ← List.getLast?_eq_some_getLast]
  exact hx

theorem EndsT.of_suffix {r x : Bytes} (h : EndsT x) (hs : r <:+ x) (hr : r ≠ []) : EndsT r :=
  h.imp (suffix_getLast hs hr) (suffix_getLast hs hr)

theorem EndsT.nil_or_of_suffix {x r : Bytes} (h : EndsT x) (hs : r <:+ x) : r = [] ∨ EndsT r :=
  (Decidable.em (r = [])).imp_right (h.of_suffix hs)

theorem dropWhile_takeWhile_append_of_ne_nil {p : Nat → Bool} {x : Bytes} (y : Bytes)
    (h : x.dropWhile p ≠ []) :
    (x ++ y).dropWhile p = x.dropWhile p ++ y ∧ (x ++ y).takeWhile p = x.takeWhile p := by
  have hl := congrArg List.length (List.takeWhile_append_dropWhile (p := p) (l := x))
  have hd := List.length_pos_iff.mpr h
  rw [List.length_append] at hl
  rw [List.dropWhile_append, List.takeWhile_append, if_neg (by rwa [List.isEmpty_iff]),
    if_neg (by omega)]
  exact ⟨rfl, rfl⟩

theorem ne_of_eq_false_of_eq_true {p : Nat → Bool} {a b : Nat} (ha : p a = false)
    (hb : p b = true) : a ≠ b :=
  fun e => Bool.false_ne_true (ha.symm.trans (e ▸ hb))

theorem mem_dropWhile_of_false {p : Nat → Bool} {a : Nat} (hp : p a = false) :
    ∀ {x : Bytes}, a ∈ x → a ∈ x.dropWhile p
  | b :: x, h => by
    rw [List.dropWhile_cons]
    split
    · next hb =>
      have hab := ne_of_eq_false_of_eq_true hp hb
      exact mem_dropWhile_of_false hp (List.mem_of_ne_of_mem hab h)
    · exact h

abbrev NoTerm (p : Nat → Bool) : Prop := p 10 = false ∧ p 59 = false

theorem hasTerm_dropWhile {p : Nat → Bool} (hp : NoTerm p) {x : Bytes} (h : HasTerm x) :
    HasTerm (x.dropWhile p) :=
  h.imp (mem_dropWhile_of_false hp.1) (mem_dropWhile_of_false hp.2)

theorem HasTerm.tail {p : Nat → Bool} (hp : NoTerm p) {b : Nat} {r : Bytes} (hb : p b = true)
    (h : HasTerm (b :: r)) : HasTerm r :=
  h.imp (List.mem_of_ne_of_mem (ne_of_eq_false_of_eq_true hp.1 hb))
    (List.mem_of_ne_of_mem (ne_of_eq_false_of_eq_true hp.2 hb))

structure Rel {α : Type} (y : Bytes) (a a' : PResult α) : Prop where
  ext : a' = a.extend y
  keep : ∀ r v, a = .ok r v → HasTerm r

def CB {α : Type} (p : Parser α) : Prop := ∀ x y, HasTerm x → Rel y (p x) (p (x ++ y))

theorem rel_ok {α : Type} {y r : Bytes} {v : α} (h : HasTerm r) :
    Rel y (PResult.ok r v) (PResult.ok (r ++ y) v) :=
  ⟨rfl, fun _ _ e => (PResult.ok.inj e).1 ▸ h⟩

theorem rel_soft {α : Type} {y : Bytes} {e : Option Err} :
    Rel y (PResult.soft e : PResult α) (PResult.soft e) :=
  ⟨rfl, nofun⟩

theorem rel_crash {α : Type} {y : Bytes} {c : Crash} :
    Rel y (PResult.crash c : PResult α) (PResult.crash c) :=
  ⟨rfl, nofun⟩

theorem rel_ofErr {α : Type} {y : Bytes} {e : StdErr} :
    Rel y (ofErr e : PResult α) (ofErr e) :=
  ⟨(extend_ofErr e y).symm, fun _ _ h => absurd h ofErr_ne_ok⟩

theorem rel_bind {α β : Type} {y : Bytes} {a a' : PResult α} {k k' : Bytes → α → PResult β}
    (h : Rel y a a')
    (hk : ∀ r v, a = .ok r v → HasTerm r → Rel y (k r v) (k' (r ++ y) v)) :
    Rel y (a.bind k) (a'.bind k') := by
  obtain ⟨rfl, keep⟩ := h
  cases a with
  | ok r v => exact hk r v rfl (keep r v rfl)
  | _ => exact ⟨rfl, fun _ _ h => by cases h⟩

theorem rel_map {α β : Type} {y : Bytes} {a a' : PResult α} {f : α → β} (h : Rel y a a') :
    Rel y (a.map f) (a'.map f) := by
  obtain ⟨rfl, keep⟩ := h
  cases a with
  | ok r v => exact rel_ok (keep r v rfl)
  | _ => exact ⟨rfl, fun _ _ h => by cases h⟩

theorem rel_orElse {α : Type} {y : Bytes} {a a' : PResult α} {b b' : Unit → PResult α}
    (h : Rel y a a') (hb : Rel y (b ()) (b' ())) : Rel y (a.orElse b) (a'.orElse b') := by
  obtain ⟨rfl, keep⟩ := h
  cases a with
  | ok r v => exact rel_ok (keep r v rfl)
  | crash c => exact rel_crash
  | _ => exact hb

theorem rel_orNext {α : Type} {y : Bytes} {a a' : PResult α} {b b' : Unit → PResult α}
    (h : Rel y a a') (hb : Rel y (b ()) (b' ())) : Rel y (a.orNext b) (a'.orNext b') := by
  obtain ⟨rfl, keep⟩ := h
  cases a with
  | ok r v => exact rel_ok (keep r v rfl)
  | incomplete => exact ⟨rfl, nofun⟩
  | crash c => exact rel_crash
  | _ => exact hb

theorem rel_mapErr {α : Type} {y : Bytes} {a a' : PResult α} {e : StdErr} (h : Rel y a a') :
    Rel y (a.mapErr e) (a'.mapErr e) := by
  obtain ⟨rfl, keep⟩ := h
  cases a with
  | ok r v => exact rel_ok (keep r v rfl)
  | crash c => exact rel_crash
  | _ => exact rel_ofErr

theorem cb_optP {α : Type} {p : Parser α} (h : CB p) : CB (optP p) := by
  intro x y hT
  obtain ⟨e, keep⟩ := h x y hT
  unfold optP
  rw [e]
  cases hp : p x with
  | ok r v => exact rel_ok (keep r v hp)
  | crash c => exact rel_crash
  | _ => exact rel_ok hT

theorem cb_takeWhileP {cls : Nat → Bool} (hc : NoTerm cls) : CB (takeWhileP cls) := by
  intro x y hT
  have hd := hasTerm_dropWhile hc hT
  obtain ⟨e1, e2⟩ := dropWhile_takeWhile_append_of_ne_nil (p := cls) y hd.ne_nil
  unfold takeWhileP
  rw [e1, e2]
  exact rel_ok hd

theorem satisfy_ext {cls : Nat → Bool} {x : Bytes} (y : Bytes) (hx : x ≠ []) :
    satisfy cls (x ++ y) = (satisfy cls x).extend y := by
  cases x with
  | nil => exact absurd rfl hx
  | cons b r =>
    rw [List.cons_append, satisfy_cons, satisfy_cons]
    split
    · rfl
    · exact (extend_ofErr _ y).symm

theorem cb_satisfy {cls : Nat → Bool} (hc : NoTerm cls) : CB (satisfy cls) := by
  refine fun x y hT => ⟨satisfy_ext y hT.ne_nil, fun r v e => ?_⟩
  obtain ⟨rfl, hv⟩ := satisfy_ok_cons e
  exact hT.tail hc hv

theorem cb_tag {t : Nat} (ht : t ≠ 10 ∧ t ≠ 59) : CB (tag t) :=
  cb_satisfy ⟨beq_eq_false_iff_ne.mpr ht.1.symm, beq_eq_false_iff_ne.mpr ht.2.symm⟩

theorem rel_consumed {α : Type} {y x r : Bytes} {k k' : Bytes → PResult α}
    (hk : ∀ s, Rel y (k s) (k' s)) : Rel y (consumed x r k) (consumed (x ++ y) (r ++ y) k') := by
  unfold consumed
  simp only [List.length_append, Nat.add_le_add_iff_right, Nat.add_sub_add_right]
  split
  · rw [List.take_append_of_le_length (Nat.sub_le _ _)]
    exact hk _
  · exact rel_crash

theorem rel_fromUtf8 {α : Type} {y s : Bytes} {k k' : Bytes → PResult α}
    (hk : ∀ s, Rel y (k s) (k' s)) : Rel y (fromUtf8 s k) (fromUtf8 s k') := by
  unfold fromUtf8
  split
  · exact hk _
  · exact rel_ofErr

theorem ext_bind {α β : Type} {y : Bytes} {a a' : PResult α} {k k' : Bytes → α → PResult β}
    (h : a' = a.extend y) (hk : ∀ r v, a = .ok r v → k' (r ++ y) v = (k r v).extend y) :
    a'.bind k' = (a.bind k).extend y := by
  subst h
  cases a with
  | ok r v => exact hk r v rfl
  | _ => rfl

theorem ext_map {α β : Type} {y : Bytes} {a a' : PResult α} {f : α → β} (h : a' = a.extend y) :
    a'.map f = (a.map f).extend y := by
  subst h
  cases a <;> rfl

theorem ext_orElse {α : Type} {y : Bytes} {a a' : PResult α} {b b' : Unit → PResult α}
    (h : a' = a.extend y) (hb : b' () = (b ()).extend y) :
    a'.orElse b' = (a.orElse b).extend y := by
  subst h
  cases a with
  | ok r v => rfl
  | crash c => rfl
  | _ => exact hb

theorem ext_optP {α : Type} {p : Parser α} {x y : Bytes} (h : p (x ++ y) = (p x).extend y) :
    optP p (x ++ y) = (optP p x).extend y := by
  unfold optP
  rw [h]
  cases p x <;> rfl

theorem ext_fromUtf8 {α : Type} {y s : Bytes} {k k' : Bytes → PResult α}
    (hk : ∀ s, k' s = (k s).extend y) : fromUtf8 s k' = (fromUtf8 s k).extend y := by
  unfold fromUtf8
  split
  · exact hk _
  · exact (extend_ofErr _ y).symm

end Scpi
