/-
Forward evaluation of the combinators and the elementary recognisers:
`p (text ++ rest) = .ok rest v` when `text` is in the class and `rest` does not continue it
(`Ends p rest`); and what the rendering theorems (C03/C08/C11) need of the byte classes: they
are ASCII, hence valid UTF-8, and no delimiter is a digit, a letter or `_`.
-/
import Scpi.Spec.Ast
import Scpi.Proofs.Good
import Scpi.Proofs.ListScan

namespace Scpi

theorem ends_nil (p : Nat → Bool) : Ends p [] := fun _ _ h => by cases h

theorem ends_cons {p : Nat → Bool} {d : Nat} {r : Bytes} (h : p d = false) : Ends p (d :: r) :=
  fun _ _ e => by cases e; exact h

theorem Ends.head {p : Nat → Bool} {d : Nat} {r : Bytes} (h : Ends p (d :: r)) : p d = false :=
  h d r rfl

theorem Ends.mono {p q : Nat → Bool} {rest : Bytes} (h : Ends p rest)
    (hpq : ∀ b, p b = false → q b = false) : Ends q rest :=
  fun d r e => hpq d (h d r e)

theorem Ends.append {p : Nat → Bool} {d : Nat} {r : Bytes} (h : Ends p (d :: r)) (r' : Bytes) :
    Ends p (d :: r') := ends_cons h.head

theorem ends_append_of_ne_nil {p : Nat → Bool} {x : Bytes} (y : Bytes) (hx : x ≠ [])
    (h : Ends p x) : Ends p (x ++ y) := by
  cases x with
  | nil => exact absurd rfl hx
  | cons b r => exact ends_cons h.head

theorem ends_append_of_all {p q : Nat → Bool} {t : Bytes} (Y : Bytes) (hne : t ≠ [])
    (ht : t.all p = true) (hpq : ∀ b, p b = true → q b = false) : Ends q (t ++ Y) := by
  cases t with
  | nil => exact absurd rfl hne
  | cons b t =>
    simp only [List.all_cons, Bool.and_eq_true] at ht
    exact ends_cons (hpq b ht.1)

theorem takeWhile_append_ends {p : Nat → Bool} {t rest : Bytes}
    (ht : t.all p = true) (he : Ends p rest) :
    (t ++ rest).takeWhile p = t ∧ (t ++ rest).dropWhile p = rest :=
  takeWhile_dropWhile_append (List.all_eq_true.mp ht) fun b hb =>
    let ⟨r, hr⟩ := List.head?_eq_some_iff.mp hb; he b r hr

theorem optP_satisfy_ends {p : Nat → Bool} {rest : Bytes} (h : Ends p rest) :
    optP (satisfy p) rest = .ok rest none := by
  cases rest with
  | nil => rfl
  | cons d r => simp only [optP, satisfy_cons_false r h.head]

theorem optP_satisfy_cons {p : Nat → Bool} {b : Nat} (r : Bytes) (h : p b = true) :
    optP (satisfy p) (b :: r) = .ok r (some b) := by
  simp only [optP, satisfy_cons_true r h]

theorem takeWhileP_append {p : Nat → Bool} {t rest : Bytes} (ht : t.all p = true)
    (he : Ends p rest) : takeWhileP p (t ++ rest) = .ok rest t := by
  obtain ⟨e1, e2⟩ := takeWhile_append_ends ht he
  simp only [takeWhileP, e1, e2]

theorem consumed_of_eq {α : Type} {input t rest : Bytes} (k : Bytes → PResult α)
    (h : input = t ++ rest) : consumed input rest k = k t := by
  subst h
  rw [consumed, List.length_append, if_pos (Nat.le_add_left _ _), Nat.add_sub_cancel,
    List.take_left' rfl]

theorem validUtf8_cons_ascii {b : Nat} (h : b < 128) (s : Bytes) :
    validUtf8 (b :: s) = validUtf8 s := by
  conv =>
    lhs
    unfold validUtf8
  exact if_pos h

theorem validUtf8_ascii : ∀ {s : Bytes}, (∀ b ∈ s, b < 128) → validUtf8 s = true
  | [], _ => rfl
  | b :: s, h => by
    rw [validUtf8_cons_ascii (h b (List.mem_cons_self ..))]
    exact validUtf8_ascii fun c hc => h c (List.mem_cons_of_mem _ hc)

theorem validUtf8_of_all {p : Nat → Bool} {s : Bytes} (hp : ∀ b, p b = true → b < 128)
    (h : s.all p = true) : validUtf8 s = true :=
  validUtf8_ascii fun b hb => hp b (List.all_eq_true.mp h b hb)

theorem fromUtf8_valid {α : Type} {s : Bytes} (k : Bytes → PResult α) (h : validUtf8 s = true) :
    fromUtf8 s k = k s := by
  simp only [fromUtf8, h, if_true]

theorem isDelim_iff (b : Nat) :
    isDelim b = true ↔ (b ≤ 9 ∨ (11 ≤ b ∧ b ≤ 32)) ∨ b = 44 ∨ b = 59 ∨ b = 10 := by
  simp only [isDelim, Bool.or_eq_true, isWs_iff, beq_iff_eq, or_assoc]

theorem isDelim_of_isWs {b : Nat} (h : isWs b = true) : isDelim b = true := by
  simp only [isDelim, h, Bool.true_or]

theorem isDigit_lt {b : Nat} (h : isDigit b = true) : b < 128 := by
  rw [isDigit_iff] at h
  omega

theorem isAlpha_lt {b : Nat} (h : isAlpha b = true) : b < 128 := by
  rw [isAlpha_iff] at h
  omega

theorem isMnemonicTail_lt {b : Nat} (h : isMnemonicTail b = true) : b < 128 := by
  rw [isMnemonicTail_iff] at h
  omega

theorem isHexDigit_lt {b : Nat} (h : isHexDigit b = true) : b < 128 := by
  rw [isHexDigit_iff] at h
  omega

theorem isBinDigit_lt {b : Nat} (h : isBinDigit b = true) : b < 128 := by
  rw [isBinDigit_iff] at h
  omega

theorem isOctDigit_lt {b : Nat} (h : isOctDigit b = true) : b < 128 := by
  rw [isOctDigit_iff] at h
  omega

/-- So a delimiter lies below the digits or between digits and letters. -/
theorem isDelim_le {b : Nat} (h : isDelim b = true) : b ≤ 44 ∨ b = 59 := by
  rw [isDelim_iff] at h
  omega

theorem isDelim_not_mnemonicTail {b : Nat} (h : isDelim b = true) : isMnemonicTail b = false := by
  have := isDelim_le h
  exact eq_false_of_iff (isMnemonicTail_iff b) (by omega)

theorem allWs_append {a b : Bytes} (ha : allWs a = true) (hb : allWs b = true) :
    allWs (a ++ b) = true := by
  simp only [allWs, List.all_append, Bool.and_eq_true] at ha hb ⊢
  exact ⟨ha, hb⟩

theorem whitespace_append {w rest : Bytes} (hw : allWs w = true) (hne : w ≠ [])
    (he : Ends isWs rest) : whitespace (w ++ rest) = .ok rest w := by
  obtain ⟨e1, e2⟩ := takeWhile_append_ends (p := isWs) hw he
  unfold whitespace
  rw [e1, e2]
  cases w with
  | nil => exact absurd rfl hne
  | cons b w => rfl

theorem optP_whitespace_append {w rest : Bytes} (hw : allWs w = true) (he : Ends isWs rest) :
    ∃ v, optP whitespace (w ++ rest) = .ok rest v := by
  by_cases hne : w = []
  · subst hne
    cases rest with
    | nil => exact ⟨none, rfl⟩
    | cons d r =>
      refine ⟨none, ?_⟩
      simp only [List.nil_append, optP, whitespace_soft r he.head]
  · exact ⟨some w, by simp only [optP, whitespace_append hw hne he]⟩

theorem separator_render {t : Nat} {e : StdErr} {a b X : Bytes} (ht : isWs t = false)
    (ha : allWs a = true) (hb : allWs b = true) (hX : Ends isWs X) :
    separator t e (a ++ t :: (b ++ X)) = .ok X () := by
  obtain ⟨v1, e1⟩ := optP_whitespace_append ha (ends_cons (r := b ++ X) ht)
  obtain ⟨v2, e2⟩ := optP_whitespace_append hb hX
  simp only [separator, e1, PResult.bind, tag_cons_self, PResult.mapErr, e2]

theorem separator_soft {t : Nat} {e : StdErr} {w : Bytes} {d : Nat} (r : Bytes)
    (hw : allWs w = true) (hd : isWs d = false) (hdt : d ≠ t) :
    separator t e (w ++ d :: r) = ofErr e := by
  obtain ⟨v1, e1⟩ := optP_whitespace_append hw (ends_cons (r := r) hd)
  unfold separator
  rw [e1]
  show ((tag t (d :: r)).mapErr e).bind _ = _
  rw [tag_cons_ne r hdt]
  exact ofErr_bind e _

theorem digits_append {ds rest : Bytes} (hne : ds ≠ []) (hd : ds.all isDigit = true)
    (he : Ends isDigit rest) : digits (ds ++ rest) = .ok rest ds := by
  cases ds with
  | nil => exact absurd rfl hne
  | cons b t =>
    simp only [List.all_cons, Bool.and_eq_true] at hd
    simp only [digits, List.cons_append, satisfy_cons_true _ hd.1, PResult.bind,
      takeWhileP_append hd.2 he]

theorem optP_digits_append {ds rest : Bytes} (hd : ds.all isDigit = true) (he : Ends isDigit rest) :
    optP digits (ds ++ rest) = .ok rest (if ds = [] then none else some ds) := by
  by_cases hne : ds = []
  · subst hne
    cases rest with
    | nil => rfl
    | cons d r =>
      simp only [List.nil_append, optP, digits, satisfy_cons_false r he.head, PResult.bind, if_true]
  · simp only [optP, digits_append hne hd he, if_neg hne]

theorem isMnemonicText_cons {m : Bytes} (hm : isMnemonicText m = true) :
    ∃ b t, m = b :: t ∧ isAlpha b = true ∧ t.all isMnemonicTail = true := by
  cases m with
  | nil => cases hm
  | cons b t => exact ⟨b, t, rfl, Bool.and_eq_true_iff.mp hm⟩

theorem mnemonic_append {m rest : Bytes} (hm : isMnemonicText m = true)
    (he : Ends isMnemonicTail rest) : mnemonic (m ++ rest) = .ok rest m := by
  obtain ⟨b, t, rfl, hb, ht⟩ := isMnemonicText_cons hm
  simp only [mnemonic, List.cons_append, satisfy_cons_true _ hb, PResult.bind,
    takeWhileP_append ht he]

theorem validUtf8_mnemonic {m : Bytes} (hm : isMnemonicText m = true) : validUtf8 m = true := by
  obtain ⟨b, t, rfl, hb, ht⟩ := isMnemonicText_cons hm
  rw [validUtf8_cons_ascii (isAlpha_lt hb)]
  exact validUtf8_of_all (fun _ => isMnemonicTail_lt) ht

end Scpi
