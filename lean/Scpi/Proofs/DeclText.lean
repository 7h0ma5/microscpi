/-
The declaration-string parser of the attribute macro (`Command.parse`, after
microscpi-macros/src/command.rs) in closed form (`parse_eq`): the query mark is cut off, the rest
split at the colons, and every piece contributes `partOf`, nothing when it is blank; parsing never
fails.  Then, in namespace `C14`, lemmas about the declaration lists the examples write as strings
(`decls`, `Scpi/Proofs/Literals.lean`).

The parser's vocabulary stands in namespace `M6`; the name says nothing about it (the message-level
modules `UnitVerdict` and `OneFault` use the same namespace for C06).
-/
import Scpi.Macro
import Scpi.Spec.Ast
import Scpi.Proofs.MacroKeys
import Scpi.Proofs.Literals

namespace Scpi
namespace M6

def dropLower (name : Bytes) : Bytes := name.filter fun c => !isLowerAscii c

def upper (name : Bytes) : Bytes := name.map toUpperAscii

/-- `[name]` (bytes 91, 93) declares the optional node `name`, any other text a mandatory node. -/
def declNode (part : Bytes) : Bytes × Bool :=
  if part.head? == some 91 && part.getLast? == some 93 then
    ((part.drop 1).take (part.length - 2), true)
  else (part, false)

def partOfNode (n : Bytes × Bool) : Part :=
  { optional := n.2, short := dropLower n.1, long := upper n.1 }

def partOf (raw : Bytes) : Option Part :=
  if trimBytes raw = [] then none else some (partOfNode (declNode (trimBytes raw)))

theorem head_dropWhile {p : Nat → Bool} (s : Bytes) (b : Nat)
    (h : (s.dropWhile p).head? = some b) : p b = false := by
  have := List.head?_dropWhile_not p s
  rwa [h] at this

theorem declNode_bracketed (name : Bytes) : declNode (91 :: name ++ [93]) = (name, true) := by
  simp [declNode, List.getLast?_cons]

theorem declNode_plain (part : Bytes) (h : ¬ ∃ name, part = 91 :: name ++ [93]) :
    declNode part = (part, false) := by
  unfold declNode
  split
  · next hb =>
    simp only [Bool.and_eq_true, beq_iff_eq] at hb
    obtain ⟨t, rfl⟩ := List.head?_eq_some_iff.1 hb.1
    obtain ⟨ys, hys⟩ := List.getLast?_eq_some_iff.1 hb.2
    cases ys with
    | nil => cases hys
    | cons y ys =>
      cases hys
      exact absurd ⟨ys, rfl⟩ h
  · rfl

theorem splitColon_spec (s cur : Bytes) (hc : 58 ∉ cur) :
    splitColon s cur ≠ [] ∧ (∀ p ∈ splitColon s cur, 58 ∉ p) ∧
    renderPath (splitColon s cur) = cur ++ s := by
  fun_induction splitColon s cur with
  | case1 cur => simpa [renderPath] using hc
  | case2 b rest cur hb ih =>
    obtain ⟨h1, h2, h3⟩ := ih (by simp)
    obtain rfl : b = 58 := by simpa using hb
    obtain ⟨x, xs, hx⟩ := List.exists_cons_of_ne_nil h1
    refine ⟨by simp, by simpa [hc] using h2, ?_⟩
    rw [hx] at h3 ⊢
    simp [renderPath, h3]
  | case3 b rest cur hb ih =>
    have hb' : ¬ 58 = b := fun e => hb (by simp [e])
    obtain ⟨h1, h2, h3⟩ := ih (by simp [hc, hb'])
    exact ⟨h1, h2, h3.trans (List.append_assoc cur [b] rest)⟩

theorem splitColon_append (p rest cur : Bytes) (h : 58 ∉ p) :
    splitColon (p ++ rest) cur = splitColon rest (cur ++ p) := by
  induction p generalizing cur with
  | nil => simp
  | cons b p ih =>
    have hb : ¬ b = 58 := fun e => h (by simp [e])
    rw [List.cons_append, splitColon, if_neg (by simpa using hb), ih _ fun hp => h (.tail _ hp)]
    simp

theorem parsePart_eq (raw : Bytes) : parsePart raw = .ok (partOf raw) := by
  unfold parsePart partOf declNode
  generalize trimBytes raw = part
  cases part with
  | nil => rfl
  | cons x t =>
    -- a text that starts with `[` and ends with `]` has at least two bytes: the slice never panics
    have hlen : ¬ (((x :: t).head? == some 91 && (x :: t).getLast? == some 93) = true ∧
        (x :: t).length < 2) := by
      cases t with
      | nil =>
        simp only [List.head?_cons, List.getLast?_singleton, Bool.and_eq_true, beq_iff_eq,
          Option.some.injEq]
        omega
      | cons y t => simp
    simp only [List.isEmpty_cons, Bool.false_eq_true, if_false, hlen, reduceCtorEq, partOfNode,
      dropLower, upper]

theorem parseParts_eq : ∀ (rs : List Bytes), parseParts rs = .ok (rs.filterMap partOf)
  | [] => rfl
  | r :: rs => by
    simp only [parseParts, parsePart_eq r, parseParts_eq rs, List.filterMap_cons]
    cases partOf r <;> rfl

theorem parse_eq (s : Bytes) : Command.parse s = .ok
    { parts := (splitColon (if s.getLast? == some 63 then s.dropLast else s) []).filterMap partOf,
      query := s.getLast? == some 63 } := by
  unfold Command.parse
  cases s.getLast? == some 63 <;> simp only [parseParts_eq, Bool.false_eq_true, if_false, if_true]

end M6

theorem parse_partsLowerFree {s : Bytes} {c : Command} (h : Command.parse s = .ok c) :
    PartsLowerFree c := by
  rw [M6.parse_eq] at h
  cases h
  intro part hpart
  obtain ⟨raw, _, hraw⟩ := List.mem_filterMap.1 hpart
  unfold M6.partOf at hraw
  split at hraw
  · cases hraw
  · cases hraw
    exact ⟨lowerFree_filter _, lowerFree_map_toUpper _⟩

-- so that `Command.parse s = .ok c` on concrete bytes can be decided by evaluation
deriving instance DecidableEq for Except

namespace C14

theorem decls_length (ss : List String) : (decls ss).length = ss.length := by
  induction ss with
  | nil => rfl
  | cons s ss ih => simp [decls, M6.parse_eq, ih]

/-- The bound of `(decls ss)[i]` is found by `decide`: checked against `ss`, without parsing. -/
instance (ss : List String) (i : Nat) : Decidable (i < (decls ss).length) :=
  decidable_of_iff (i < ss.length) (by rw [decls_length])

theorem decls_lowerFree (ss : List String) : ∀ c ∈ decls ss, PartsLowerFree c := by
  induction ss with
  | nil => exact fun _ h => nomatch h
  | cons s ss ih =>
    rw [decls]
    split
    · next c hc => exact List.forall_mem_cons.2 ⟨parse_partsLowerFree hc, ih⟩
    · exact ih

theorem decls_cons_ok {s : String} {c : Command} (h : Command.parse (b s) = .ok c)
    (ss : List String) : decls (s :: ss) = c :: decls ss := by
  rw [decls, h]

/-! The two declarations of the error queue, parsed once: as bytes for further evaluation, and as
the examples write them. -/

theorem parse_systErrNext_bytes : Command.parse (b "SYSTem:ERRor:[NEXT]?") =
    .ok ⟨[⟨false, [83, 89, 83, 84], [83, 89, 83, 84, 69, 77]⟩,
      ⟨false, [69, 82, 82], [69, 82, 82, 79, 82]⟩,
      ⟨true, [78, 69, 88, 84], [78, 69, 88, 84]⟩], true⟩ := by
  rw [b_ofList]
  decide +kernel

theorem parse_systErrCount_bytes : Command.parse (b "SYSTem:ERRor:COUNt?") =
    .ok ⟨[⟨false, [83, 89, 83, 84], [83, 89, 83, 84, 69, 77]⟩,
      ⟨false, [69, 82, 82], [69, 82, 82, 79, 82]⟩,
      ⟨false, [67, 79, 85, 78], [67, 79, 85, 78, 84]⟩], true⟩ := by
  rw [b_ofList]
  decide +kernel

theorem parse_systErrNext : Command.parse (b "SYSTem:ERRor:[NEXT]?") =
    .ok ⟨[⟨false, b "SYST", b "SYSTEM"⟩, ⟨false, b "ERR", b "ERROR"⟩,
      ⟨true, b "NEXT", b "NEXT"⟩], true⟩ := by
  rw [parse_systErrNext_bytes]
  repeat rewrite [b_ofList]
  rfl

theorem parse_systErrCount : Command.parse (b "SYSTem:ERRor:COUNt?") =
    .ok ⟨[⟨false, b "SYST", b "SYSTEM"⟩, ⟨false, b "ERR", b "ERROR"⟩,
      ⟨false, b "COUN", b "COUNT"⟩], true⟩ := by
  rw [parse_systErrCount_bytes]
  repeat rewrite [b_ofList]
  rfl

end C14

end Scpi
