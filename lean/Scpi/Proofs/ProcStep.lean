/-
The two fuelled loops of `process` (Scpi/Process.lean), `procInner` and `procLoop`, have deep
`match` chains as bodies.  Each body is restated as a non-recursive step function (`innerStep`,
`outerStep`: `.inl st'` = go round again, `.inr r` = leave the loop with `r`); `procInner_succ` and
`procLoop_succ` are the only proofs that unfold the loops, and `procInner_invariant`,
`procLoop_invariant` reduce a property of a run to a property of one step.
-/
import Scpi.Process

namespace Scpi

-- so that examples can compare the outcome of a whole run by evaluation in the kernel
deriving instance DecidableEq for PEnd

namespace Proc

variable {σ : Type} (I : Iface σ) (n : Nat) (fault : Option (Nat × Int))

/-- `if !res_buf.is_empty() { adapter.write(&res_buf)?; adapter.flush()?; res_buf.clear(); }`
on the scripted adapter: `b` is the content of the response buffer. -/
def respWrite {σ : Type} (fault : Option (Nat × Int)) (st : PState σ) (b : Bytes) :
    PState σ × Option PEnd :=
  if b.isEmpty then (st, none)
  else
    match faultAt fault st.calls with
    | some c => (st, some (.transport (.fault c)))
    | none =>
      let st := { st with calls := st.calls + 1, trace := st.trace ++ [PEv.w b] }
      match faultAt fault st.calls with
      | some c => (st, some (.transport (.fault c)))
      | none => ({ st with calls := st.calls + 1, trace := st.trace ++ [PEv.f] }, none)

def innerStep {σ : Type} (I : Iface σ) (n : Nat) (fault : Option (Nat × Int)) (readEnd : Nat)
    (st : PState σ) : PState σ ⊕ (PState σ × Option PEnd) :=
  match slice st.buf st.readOff readEnd with
  | none => .inr (st, some (.crash .sliceOutOfRange))
  | some window =>
    match newlinePos window with
    | none => .inr (st, none)
    | some position =>
      match slice st.buf st.procOff (st.readOff + position + 1) with
      | none => .inr (st, some (.crash .sliceOutOfRange))
      | some data =>
        match (runFrom I st.header data { cap := some n } st.user).crash with
        | some c => .inr ({ st with user := (runFrom I st.header data { cap := some n } st.user).s },
                          some (.crash c))
        | none =>
          match respWrite fault
              { st with header := (runFrom I st.header data { cap := some n } st.user).header,
                        user := (runFrom I st.header data { cap := some n } st.user).s }
              (runFrom I st.header data { cap := some n } st.user).w.buf with
          | (st', some e) => .inr (st', some e)
          | (st', none) =>
            if !(runFrom I st.header data { cap := some n } st.user).rest.isEmpty then
              if (runFrom I st.header data { cap := some n } st.user).rest.length
                  ≤ st'.procOff + data.length then
                .inl { st' with
                  procOff := st'.procOff + data.length
                    - (runFrom I st.header data { cap := some n } st.user).rest.length,
                  readOff := st.readOff + position + 1 }
              else .inr (st', some (.crash .subOverflow))
            else
              .inl { st' with procOff := st.readOff + position + 1,
                              readOff := st.readOff + position + 1 }

def stOfInner {σ : Type} : PState σ ⊕ (PState σ × Option PEnd) → PState σ
  | .inl s => s
  | .inr r => r.1

/-- `procInner` recurses inside the last two tests of its body, where `innerStep` returns: a `match`
on the step's result commutes with the tests. -/
theorem innerStep_tail {σ α : Type} (c1 c2 : Prop) [Decidable c1] [Decidable c2]
    (a b : PState σ) (r : PState σ × Option PEnd) (f : PState σ → α)
    (g : PState σ × Option PEnd → α) :
    (if c1 then if c2 then f a else g r else f b) =
      (match (if c1 then if c2 then Sum.inl a else Sum.inr r else Sum.inl b :
          PState σ ⊕ (PState σ × Option PEnd)) with
        | .inl st' => f st'
        | .inr r => g r) := by
  by_cases h1 : c1
  · rw [if_pos h1, if_pos h1]
    by_cases h2 : c2
    · rw [if_pos h2, if_pos h2]
    · rw [if_neg h2, if_neg h2]
  · rw [if_neg h1, if_neg h1]

theorem procInner_zero {σ : Type} (I : Iface σ) (n : Nat) (fault : Option (Nat × Int))
    (readEnd : Nat) (st : PState σ) :
    procInner I n fault 0 readEnd st = (st, some (.crash .noProgress)) := rfl

theorem procInner_succ (fuel readEnd : Nat) (st : PState σ) :
    procInner I n fault (fuel + 1) readEnd st =
      match innerStep I n fault readEnd st with
      | .inl st' => procInner I n fault fuel readEnd st'
      | .inr r => r := by
  rw [procInner, innerStep]
  cases slice st.buf st.readOff readEnd with
  | none => rfl
  | some window =>
    -- the next scrutinee stands under the pattern variable of the `match` just decided, where
    -- `cases` cannot replace it: `h2` rewrites it once `simp only` has reduced that `match`
    cases h2 : newlinePos window with
    | none => simp only [h2]
    | some position =>
      cases h3 : slice st.buf st.procOff (st.readOff + position + 1) with
      | none => simp only [h2, h3]
      | some data =>
        cases h4 : (runFrom I st.header data { cap := some n } st.user).crash with
        | some c => simp only [h2, h3, h4]
        | none =>
          simp only [h2, h3, h4]
          rw [respWrite]
          generalize runFrom I st.header data { cap := some n } st.user = o
          -- the response write is the same term on both sides: its three outcomes need no split
          generalize (if o.w.buf.isEmpty then _ else _ : PState σ × Option PEnd) = w
          obtain ⟨st', e⟩ := w
          cases e with
          | some e => rfl
          | none => exact innerStep_tail _ _ _ _ _ _ (fun r => r)

/-- `return Err(e)` out of `process`. -/
def stopOut {σ : Type} (e : PEnd) (st : PState σ) : POut σ :=
  { trace := st.trace, user := st.user, stop := e, final := st }

/-- Number of bytes the scripted adapter delivers for the read issued in state `st`. -/
def readCount {σ : Type} (n : Nat) (st : PState σ) : Nat :=
  min (match st.sizes with
        | k :: _ => k
        | [] => n - st.readOff) (min (n - st.readOff) st.stream.length)

/-- The state right after a successful `adapter.read(&mut cmd_buf[read_offset..])`. -/
def afterRead {σ : Type} (n : Nat) (st : PState σ) : PState σ :=
  { st with
    buf := st.buf.take st.readOff ++ st.stream.take (readCount n st)
            ++ st.buf.drop (st.readOff + readCount n st),
    stream := st.stream.drop (readCount n st), sizes := st.sizes.drop 1,
    calls := st.calls + 1, trace := st.trace ++ [PEv.r (readCount n st) (n - st.readOff)] }

/-- `if proc_offset > 0 { cmd_buf.copy_within(proc_offset..read_end, 0); read_offset -= proc_offset;
proc_offset = 0; }` -/
def shiftBuf {σ : Type} (readEnd : Nat) (st : PState σ) : Except PEnd (PState σ) :=
  if st.procOff > 0 then
    match slice st.buf st.procOff readEnd with
    | none => .error (.crash .sliceOutOfRange)
    | some pending =>
      if st.procOff ≤ st.readOff then
        .ok { st with buf := pending ++ st.buf.drop pending.length,
                      readOff := st.readOff - st.procOff, procOff := 0 }
      else .error (.crash .subOverflow)
  else .ok st

/-- `if read_offset >= cmd_buf.len() { read_offset = 0; header = self.root_node(); }` -/
def resetFull {σ : Type} (I : Iface σ) (n : Nat) (st : PState σ) : PState σ :=
  if st.readOff ≥ n then { st with readOff := 0, header := I.root } else st

def outerStep {σ : Type} (I : Iface σ) (n : Nat) (fault : Option (Nat × Int)) (st : PState σ) :
    PState σ ⊕ POut σ :=
  if st.readOff > n then .inr (stopOut (.crash .sliceOutOfRange) st) else
  match faultAt fault st.calls with
  | some c => .inr (stopOut (.transport (.fault c)) st)
  | none =>
    if st.stream.isEmpty ∧ st.sizes.isEmpty then .inr (stopOut (.transport .eos) st) else
    match procInner I n fault (readCount n st + 1) (st.readOff + readCount n st) (afterRead n st) with
    | (st2, some e) => .inr (stopOut e st2)
    | (st2, none) =>
      match shiftBuf (st.readOff + readCount n st) { st2 with readOff := st.readOff + readCount n st } with
      | .error e => .inr (stopOut e { st2 with readOff := st.readOff + readCount n st })
      | .ok st3 => .inl (resetFull I n st3)

def stOfOuter {σ : Type} : PState σ ⊕ POut σ → PState σ
  | .inl s => s
  | .inr o => o.final

theorem procLoop_zero {σ : Type} (I : Iface σ) (n : Nat) (fault : Option (Nat × Int))
    (st : PState σ) : procLoop I n fault 0 st = stopOut (.crash .noProgress) st := rfl

theorem procLoop_succ (fuel : Nat) (st : PState σ) :
    procLoop I n fault (fuel + 1) st =
      match outerStep I n fault st with
      | .inl st' => procLoop I n fault fuel st'
      | .inr out => out := by
  rw [procLoop, outerStep]
  by_cases h1 : st.readOff > n
  · rw [if_pos h1, if_pos h1]
    rfl
  · rw [if_neg h1, if_neg h1]
    cases faultAt fault st.calls with
    | some c => rfl
    | none =>
      -- the `let`s of the loop body stay local definitions: expanding them is what costs
      extract_lets dstLen want count chunk st1 readEnd
      by_cases h2 : st.stream.isEmpty ∧ st.sizes.isEmpty
      · rw [if_pos h2, if_pos h2]
        rfl
      · rw [if_neg h2, if_neg h2]
        have e : procInner I n fault (readCount n st + 1) (st.readOff + readCount n st)
            (afterRead n st) = procInner I n fault (count + 1) readEnd st1 := rfl
        rw [e]
        generalize procInner I n fault (count + 1) readEnd st1 = r
        obtain ⟨st2, e⟩ := r
        cases e with
        | some e => rfl
        | none =>
          have e2 : st.readOff + readCount n st = readEnd := rfl
          rw [e2]
          dsimp only
          rw [shiftBuf]
          generalize (if st2.procOff > 0 then _ else _ : Except PEnd (PState σ)) = sh
          cases sh <;> rfl

theorem procLoop_inl {σ : Type} {I : Iface σ} {n : Nat} {fault : Option (Nat × Int)}
    {fuel : Nat} {st st' : PState σ} (h : outerStep I n fault st = .inl st') :
    procLoop I n fault (fuel + 1) st = procLoop I n fault fuel st' := by
  rw [procLoop_succ, h]

theorem procLoop_inr {σ : Type} {I : Iface σ} {n : Nat} {fault : Option (Nat × Int)}
    {fuel : Nat} {st : PState σ} {out : POut σ} (h : outerStep I n fault st = .inr out) :
    procLoop I n fault (fuel + 1) st = out := by
  rw [procLoop_succ, h]

/-- `P` may mention the fuel that is left; `hstep` has the shape in which the facts about one step
are stated, so that such a fact is passed on as it stands or after a case split on the step. -/
theorem procInner_invariant
    (readEnd : Nat) (P : Nat → PState σ → Prop) (Q : PState σ × Option PEnd → Prop)
    (h0 : ∀ st, P 0 st → Q (st, some (.crash .noProgress)))
    (hstep : ∀ fuel st, P (fuel + 1) st →
      match innerStep I n fault readEnd st with
      | .inl st' => P fuel st'
      | .inr r => Q r) :
    ∀ fuel st, P fuel st → Q (procInner I n fault fuel readEnd st) := by
  intro fuel
  induction fuel with
  | zero => exact h0
  | succ k ih =>
    intro st h
    have hs := hstep k st h
    rw [procInner_succ]
    generalize innerStep I n fault readEnd st = r at hs ⊢
    cases r with
    | inl st' => exact ih st' hs
    | inr r => exact hs

theorem procLoop_invariant (P : Nat → PState σ → Prop) (Q : POut σ → Prop)
    (h0 : ∀ st, P 0 st → Q (stopOut (.crash .noProgress) st))
    (hstep : ∀ fuel st, P (fuel + 1) st →
      match outerStep I n fault st with
      | .inl st' => P fuel st'
      | .inr out => Q out) :
    ∀ fuel st, P fuel st → Q (procLoop I n fault fuel st) := by
  intro fuel
  induction fuel with
  | zero => exact h0
  | succ k ih =>
    intro st h
    have hs := hstep k st h
    rw [procLoop_succ]
    generalize outerStep I n fault st = r at hs ⊢
    cases r with
    | inl st' => exact ih st' hs
    | inr out => exact hs

def initState {σ : Type} (I : Iface σ) (n : Nat) (sc : Script) (s : σ) : PState σ :=
  { buf := List.replicate n 0, header := I.root, user := s, stream := sc.stream, sizes := sc.sizes }

theorem process_eq (sc : Script) (s : σ) :
    process I n sc s =
      procLoop I n sc.fault (sc.sizes.length + sc.stream.length + 1) (initState I n sc s) := rfl

end Proc
end Scpi
