/-
C04 (float Display), assembly: for a finite positive pattern `b`, the digits of
`formatShortest` denote a decimal that `roundRat` maps back to `b` (`roundtrip_pos`): the
interval of `DigitsOut` is the one `decode_round` asks for, once both are written with the
text's powers of ten (`cmp_loop_iff`).  Then the sign: the digits of a pattern are those of its
magnitude `bits % signBit` (`roundtrip_signed`).
-/
import Scpi.Proofs.DragonDigits
import Scpi.Proofs.DragonScale
import Scpi.Proofs.DragonRound
import Scpi.Proofs.DragonText

namespace Scpi
namespace Dragon
open C03

/-- Format bound under which the fuel of the digit loop (2000) and the estimate table
(`estimateAt_1100`) suffice: binary32 (`127 + 23`) and binary64 (`1023 + 52`).  `1090` is a round
bound that keeps `nbits + exp` within the table's ±1100 and the scale below `10^1999`
(`small_range`). -/
def SmallFmt (f : FloatFmt) : Prop := 1 ≤ f.mbits ∧ 2 ≤ f.ebits ∧ f.bias + f.mbits ≤ 1090

theorem small_range {mant plus mb B : Nat} {exp : Int} (hm2 : 2 ≤ mant) (hpl : 1 ≤ plus)
    (hmp : mant + plus ≤ 2 ^ (mb + 3)) (hB : B + mb ≤ 1090)
    (he1 : -((B + mb : Nat) : Int) - 1 ≤ exp) (he2 : exp + mb + 1 ≤ B) :
    -1100 ≤ (((mant + plus - 1).log2 + 1 : Nat) : Int) + exp ∧
    (((mant + plus - 1).log2 + 1 : Nat) : Int) + exp ≤ 1100 ∧
    (-exp).toNat + (estimateK mant plus exp).toNat < 1999 := by
  have hnb : (mant + plus - 1).log2 < mb + 3 := (Nat.log2_lt (by omega)).mpr (by omega)
  unfold estimateK
  omega

/-- The loop's `i + (-k0)⁺ + g` decimal places against `k0⁺` are the text's `(len - k)⁺` against
`(k - len)⁺`. -/
theorem exp10_balance (i g : Nat) (k0 k len : Int)
    (hD : k - len = k0 + 1 - (g : Nat) - ((i + 1 : Nat) : Int)) :
    (i + (-k0).toNat + g) + (k - len).toNat = (len - k).toNat + k0.toNat := by
  have h1 := Int.toNat_sub_toNat_neg k0
  have h2 := Int.toNat_sub_toNat_neg (k - len)
  rw [Int.neg_sub] at h2
  omega

theorem cmp_pow_shift (incl : Bool) {B : Nat} (hB : 0 < B) {x y p q p' q' : Nat}
    (e : p + q' = p' + q) :
    Cmp incl (x * B ^ p) (y * B ^ q) ↔ Cmp incl (x * B ^ p') (y * B ^ q') := by
  cases incl
  · exact pow_shift_lt_iff hB e
  · exact pow_shift_le_iff hB e

theorem cmp_loop_iff (incl : Bool) {i p g q w u : Nat} (e : i + p + g + w = u + q)
    (X a N a' : Nat) :
    (Cmp incl (10 ^ i * (X * (a * 10 ^ p * 10 ^ g))) (N * (a' * 10 ^ q)) ↔
      Cmp incl (X * a * 10 ^ u) (N * 10 ^ w * a')) ∧
    (Cmp incl (N * (a' * 10 ^ q)) (10 ^ i * (X * (a * 10 ^ p * 10 ^ g))) ↔
      Cmp incl (N * 10 ^ w * a') (X * a * 10 ^ u)) := by
  have hL : 10 ^ i * (X * (a * 10 ^ p * 10 ^ g)) = X * a * 10 ^ (i + p + g) := by
    rw [Nat.pow_add, Nat.pow_add]
    ac_rfl
  rw [hL, ← Nat.mul_assoc N, Nat.mul_right_comm N (10 ^ w)]
  exact ⟨cmp_pow_shift incl (B := 10) (by decide) e,
    cmp_pow_shift incl (B := 10) (by decide) (by omega)⟩

/-- `out = (ds, k)` are decimal digits and an exponent, and `roundRat` takes the decimal
`0.ds · 10^k = digitsValue ds · 10^(k - len)`, a fraction with truncated exponents, to `b`. -/
def RoundsTo (f : FloatFmt) (out : List Nat × Int) (b : Nat) : Prop :=
  out.1 ≠ [] ∧ (∀ d ∈ out.1, d < 10) ∧
  roundRat f (digitsValue 10 out.1 * 10 ^ (out.2 - (out.1.length : Nat)).toNat)
    (10 ^ (((out.1.length : Nat) : Int) - out.2).toNat) = b

theorem roundtrip_pos (f : FloatFmt) (hf : SmallFmt f) (b : Nat) (hb0 : 0 < b)
    (hb : b < f.infBits) : RoundsTo f (formatShortest f b) b := by
  obtain ⟨hm, he, hB⟩ := hf
  obtain ⟨mant, plus, exp, incl, hdec, hsub, hround, hm2, hpl1, hmp, he1, he2⟩ :=
    decode_round f hm he b hb0 hb
  rw [formatShortest_eq, hdec]
  simp only []
  -- the argument of the estimate is in the range of the table: the first digit is below ten
  have ht := small_range hm2 hpl1 hmp hB he1 he2
  have hest : mant * numFactor exp (estimateK mant plus exp) <
      10 * scaleOf exp (estimateK mant plus exp) :=
    estimate_first mant _ exp _
      (Nat.lt_of_le_of_lt (Nat.le_sub_one_of_lt (Nat.lt_add_of_pos_right hpl1)) Nat.lt_log2_self)
      (estimateAt_1100 _ ht.1 ht.2.1)
  obtain ⟨i, g, ⟨ne, dig, kout, lo, hi, early⟩, first⟩ :=
    formatCore_spec (minus0 := 1) incl rfl (Nat.le_of_succ_le hm2) hpl1 hest
      (scaleOf_lt (n := 1999) ht.2.2)
  refine ⟨ne, dig, ?_⟩
  rw [← Nat.sub_mul] at lo
  rw [← Nat.add_mul] at hi early
  -- (generalised before anything looks at it: `whnf` of `formatCore …` would run the loop)
  generalize formatCore mant 1 plus exp incl = out at *
  generalize estimateK mant plus exp = k0 at *
  -- the digits are inside the interval, strictly for odd `b`: then the mode is exclusive, or `b`
  -- is a sub-normal, whose digits never denote an end of the interval
  have hstrict : b % 2 = 1 →
      Cmp false (10 ^ i * ((mant - 1) * (numFactor exp k0 * 10 ^ g)))
        (digitsValue 10 out.1 * scaleOf exp k0) ∧
      Cmp false (digitsValue 10 out.1 * scaleOf exp k0)
        (10 ^ i * ((mant + plus) * (numFactor exp k0 * 10 ^ g))) := by
    intro hodd
    cases incl with
    | false => exact ⟨lo, hi⟩
    | true =>
      obtain ⟨rfl, rfl, hmev⟩ := (hsub hodd).resolve_left Bool.noConfusion
      have hearly := early rfl
      unfold numFactor scaleOf at lo hi first hearly ⊢
      simp only [Int.toNat_neg_natCast, Int.neg_neg, Int.toNat_natCast, Nat.pow_zero, Nat.one_mul,
        ← Nat.pow_add] at lo hi first hearly ⊢
      exact subnormal_no_tie mant _ _ _ i _ _ (Nat.le_trans hm (Nat.le_add_left _ _)) rfl hm2 hmev
        lo.le hi.le hearly first
  -- the same comparisons with the powers of ten of the text, as `decode_round` wants them
  have tr := fun incl X => cmp_loop_iff incl (exp10_balance i g k0 _ _ kout) X (2 ^ exp.toNat)
    (digitsValue 10 out.1) (2 ^ (-exp).toNat)
  exact hround _ _ (Nat.pow_pos (by decide)) ((tr incl _).1.mp lo).le ((tr incl _).2.mp hi).le
    fun hodd => ⟨(tr false _).1.mp (hstrict hodd).1, (tr false _).2.mp (hstrict hodd).2⟩

theorem decodeFinite_mod_sign (f : FloatFmt) (bits : Nat) :
    decodeFinite f (bits % f.signBit) = decodeFinite f bits := by
  unfold decodeFinite
  rw [fracOf_mod_sign, expOf_mod_sign]

theorem formatShortest_mod_sign (f : FloatFmt) (bits : Nat) :
    formatShortest f (bits % f.signBit) = formatShortest f bits := by
  rw [formatShortest_eq, formatShortest_eq, decodeFinite_mod_sign]

theorem roundtrip_signed (f : FloatFmt) (hf : SmallFmt f) (bits : Nat)
    (hfin : f.expOf bits ≠ f.expMax) (hnz : ¬ (f.expOf bits = 0 ∧ f.fracOf bits = 0)) :
    RoundsTo f (formatShortest f bits) (bits % f.signBit) := by
  have hb : bits % f.signBit < f.infBits :=
    lt_infBits f _ (Nat.mod_lt _ (Nat.two_pow_pos _)) (by rw [expOf_mod_sign]; exact hfin)
  have := roundtrip_pos f hf _ (Nat.pos_of_ne_zero (mt (fields_zero_iff f bits).mpr hnz)) hb
  rw [formatShortest_mod_sign] at this
  exact this

end Dragon
end Scpi
