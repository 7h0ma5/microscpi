/-
C06 at the level of whole messages.  Every unit `specExec` reaches gets a verdict (`UnitVerdict`)
and makes at most one handler invocation; `reports` lists both for a message.  The instrumented
interface (`Iface.instrument`) does to writer and user state what the plain one does and appends
to its log, unit by unit, the invocation made and the error of the verdict
(`specExec_instrument`).
-/
import Scpi.Proofs.MsgCor

namespace Scpi
namespace M6
open Msg

inductive UnitVerdict where
  /-- the header does not resolve to a node: a parse-level fault -/
  | undefined
  /-- the node has no handler of the kind (command / query) asked for, or its id is not in the
  handler table -/
  | noSlot
  | arity
  /-- a parameter does not convert to its declared type (`e`: the first such error) -/
  | conversion (e : Err)
  | handlerError (e : Err)
  /-- the handler ran and succeeded; writing its response failed with `e` -/
  | writeError (e : Err)
  | ok
  deriving DecidableEq, Repr

namespace UnitVerdict

def error : UnitVerdict → Option Err
  | undefined => some (.std .UndefinedHeader)
  | noSlot => some (.std .UndefinedHeader)
  | arity => some (.std .UnexpectedNumberOfParameters)
  | conversion e => some e
  | handlerError e => some e
  | writeError e => some e
  | ok => none

def invokes : UnitVerdict → Bool
  | handlerError _ => true
  | writeError _ => true
  | ok => true
  | _ => false

/-- An execution-level fault: the unit was accepted by the parser and failed later. -/
def execLevel : UnitVerdict → Bool
  | undefined => false
  | ok => false
  | _ => true

theorem error_of_ne_ok {v : UnitVerdict} (h : v ≠ .ok) : ∃ e, v.error = some e := by
  cases v <;> simp [error] at h ⊢

theorem invokes_iff_of_ne_ok {v : UnitVerdict} (h : v ≠ .ok) :
    v.invokes = true ↔ ∃ e, v = .handlerError e ∨ v = .writeError e := by
  cases v <;> simp [invokes] at h ⊢

theorem execLevel_iff_of_ne_ok {v : UnitVerdict} (h : v ≠ .ok) :
    v.execLevel = true ↔ v ≠ .undefined := by
  cases v <;> simp [execLevel] at h ⊢

end UnitVerdict

/-- Follows the branches of `specUnit`. -/
def verdictOn {σ : Type} (I : Iface σ) (node : Node) (query : Bool) (args : List Value)
    (w : Writer) (s : σ) : UnitVerdict :=
  match slotCmd I node query with
  | none => .noSlot
  | some c =>
    if args.length ≠ c.argTys.length then .arity
    else
      match convertAll c.argTys args with
      | .error e => .conversion e
      | .ok tvs =>
        match c.handler s tvs with
        | (_, .error e) => .handlerError e
        | (_, .ok resp) =>
          match reply query w resp with
          | (_, .error e) => .writeError e
          | (_, .ok ()) => .ok

def verdict {σ : Type} (I : Iface σ) (cur : Node) (u : MsgUnit) (w : Writer) (s : σ) : UnitVerdict :=
  match resolve I.root cur u.hdr.path with
  | none => .undefined
  | some (node, _) => verdictOn I node u.hdr.query (u.lits.map Lit.value) w s

/-- The handler invocation (table index, converted parameters) a unit on `node` makes, if it
gets that far: `Scpi.invocation` (Scpi/Proofs/RunLog.lean) with `convertAll` for `convertArgs`. -/
def invokedOn {σ : Type} (I : Iface σ) (node : Node) (query : Bool) (args : List Value) :
    Option (Nat × List TVal) :=
  (if query then node.query else node.command).bind fun id =>
    (I.cmds[id]?).bind fun c =>
      if args.length ≠ c.argTys.length then none
      else
        match convertAll c.argTys args with
        | .error _ => none
        | .ok tvs => some (id, tvs)

/-- Verdict and invocation of one reached unit. -/
abbrev Report := UnitVerdict × Option (Nat × List TVal)

/-- One report per unit `specExec` reaches.  Behind a header that does not resolve the list ends:
the rest of the message is dropped, not classified. -/
def reports {σ : Type} (I : Iface σ) : Node → List MsgUnit → Writer → σ → List Report
  | _, [], _, _ => []
  | cur, u :: us, w, s =>
    match resolve I.root cur u.hdr.path with
    | none => [(.undefined, none)]
    | some (node, parent) =>
      (verdictOn I node u.hdr.query (u.lits.map Lit.value) w s,
        invokedOn I node u.hdr.query (u.lits.map Lit.value)) ::
        reports I (parent.getD cur) us
          (specUnit I node u.hdr.query (u.lits.map Lit.value) w s).1
          (specUnit I node u.hdr.query (u.lits.map Lit.value) w s).2

def verdicts {σ : Type} (I : Iface σ) (cur : Node) (us : List MsgUnit) (w : Writer) (s : σ) :
    List UnitVerdict :=
  (reports I cur us w s).map (·.1)

/-- The path with which the unit behind `us` is read, when `us` is read with the path `cur`. -/
def pathThrough (root : Node) : Node → List MsgUnit → Node
  | cur, [] => cur
  | cur, u :: us =>
    match resolve root cur u.hdr.path with
    | none => cur
    | some (_, parent) => pathThrough root (parent.getD cur) us

def errLog {ε : Type} (fe : Err → List ε) : Option Err → List ε
  | none => []
  | some e => fe e

def reportLog {ε : Type} (fc : Nat → List TVal → List ε) (fe : Err → List ε) (r : Report) : List ε :=
  callLog fc r.2 ++ errLog fe r.1.error

/-- `verdictOn`, `invokedOn` and `specUnit` as one relation with a rule per branch of `specUnit`,
so that a statement about the three takes one case analysis (`unitRun`). -/
inductive UnitRun {σ : Type} (I : Iface σ) (node : Node) (q : Bool) (args : List Value) (w : Writer)
    (s : σ) : UnitVerdict → Option (Nat × List TVal) → Writer × σ → Prop
  | noSlot (h : slotCmd I node q = none) :
    UnitRun I node q args w s .noSlot none (w, I.onError s (.std .UndefinedHeader))
  | arity {id c} (hid : (if q then node.query else node.command) = some id)
      (hc : I.cmds[id]? = some c) (hl : args.length ≠ c.argTys.length) :
    UnitRun I node q args w s .arity none (w, I.onError s (.std .UnexpectedNumberOfParameters))
  | conversion {id c e} (hid : (if q then node.query else node.command) = some id)
      (hc : I.cmds[id]? = some c) (hl : args.length = c.argTys.length)
      (ha : convertAll c.argTys args = .error e) :
    UnitRun I node q args w s (.conversion e) none (w, I.onError s e)
  | handlerError {id c tvs s' e} (hid : (if q then node.query else node.command) = some id)
      (hc : I.cmds[id]? = some c) (hl : args.length = c.argTys.length)
      (ha : convertAll c.argTys args = .ok tvs) (hh : c.handler s tvs = (s', .error e)) :
    UnitRun I node q args w s (.handlerError e) (some (id, tvs)) (w, I.onError s' e)
  | writeError {id c tvs s' resp w' e} (hid : (if q then node.query else node.command) = some id)
      (hc : I.cmds[id]? = some c) (hl : args.length = c.argTys.length)
      (ha : convertAll c.argTys args = .ok tvs) (hh : c.handler s tvs = (s', .ok resp))
      (hr : reply q w resp = (w', .error e)) :
    UnitRun I node q args w s (.writeError e) (some (id, tvs)) (w', I.onError s' e)
  | ok {id c tvs s' resp w'} (hid : (if q then node.query else node.command) = some id)
      (hc : I.cmds[id]? = some c) (hl : args.length = c.argTys.length)
      (ha : convertAll c.argTys args = .ok tvs) (hh : c.handler s tvs = (s', .ok resp))
      (hr : reply q w resp = (w', .ok ())) :
    UnitRun I node q args w s .ok (some (id, tvs)) (w', s')

theorem slotCmd_eq_some {σ : Type} {I : Iface σ} {node : Node} {q : Bool} {id : Nat} {c : Cmd σ}
    (hid : (if q then node.query else node.command) = some id) (hc : I.cmds[id]? = some c) :
    slotCmd I node q = some c := by
  rw [slotCmd, hid, Option.bind_some, hc]

theorem unitRun {σ : Type} (I : Iface σ) (node : Node) (q : Bool) (args : List Value) (w : Writer)
    (s : σ) :
    UnitRun I node q args w s (verdictOn I node q args w s) (invokedOn I node q args)
      (specUnit I node q args w s) := by
  unfold verdictOn invokedOn specUnit slotCmd
  cases hid : (if q then node.query else node.command) with
  | none => exact .noSlot (by rw [slotCmd, hid, Option.bind_none])
  | some id =>
    simp only [Option.bind_some]
    cases hc : I.cmds[id]? with
    | none => exact .noSlot (by rw [slotCmd, hid, Option.bind_some, hc])
    | some c =>
      simp only [Option.bind_some]
      by_cases hl : args.length = c.argTys.length
      · rw [if_neg (not_not_intro hl), if_neg (not_not_intro hl), if_neg (not_not_intro hl)]
        cases ha : convertAll c.argTys args with
        | error e => exact .conversion hid hc hl ha
        | ok tvs =>
          dsimp only
          rcases hh : c.handler s tvs with ⟨s', (e | resp)⟩
          · exact .handlerError hid hc hl ha hh
          · dsimp only
            rcases hr : reply q w resp with ⟨w', (e | ⟨⟨⟩⟩)⟩
            · exact .writeError hid hc hl ha hh hr
            · exact .ok hid hc hl ha hh hr
      · rw [if_pos hl, if_pos hl, if_pos hl]
        exact .arity hid hc hl

namespace UnitRun
variable {σ : Type} {I : Iface σ} {node : Node} {q : Bool} {args : List Value} {w : Writer}
  {s : σ} {v : UnitVerdict} {inv : Option (Nat × List TVal)} {out : Writer × σ}

theorem ne_undefined (h : UnitRun I node q args w s v inv out) : v ≠ .undefined := by
  cases h <;> exact UnitVerdict.noConfusion

theorem isSome_inv (h : UnitRun I node q args w s v inv out) : inv.isSome = v.invokes := by
  cases h <;> rfl

end UnitRun

section
variable {σ ε : Type} (I : Iface σ) (fc : Nat → List TVal → List ε) (fe : Err → List ε)

theorem specUnit_instrument (node : Node) (q : Bool) (args : List Value) (w : Writer) (s : σ)
    (l : List ε) :
    specUnit (I.instrument fc fe) node q args w (s, l) =
      ((specUnit I node q args w s).1, ((specUnit I node q args w s).2,
        l ++ reportLog fc fe (verdictOn I node q args w s, invokedOn I node q args))) := by
  have h := unitRun I node q args w s
  generalize verdictOn I node q args w s = v, invokedOn I node q args = inv,
    specUnit I node q args w s = out at h ⊢
  have slot {id c} (hid : (if q then node.query else node.command) = some id)
      (hc : I.cmds[id]? = some c) :=
    slotCmd_eq_some hid (instrument_cmds_some I fc fe hc)
  cases h with
  | noSlot h =>
    rw [specUnit_no_slot (slotCmd_instrument_none I fc fe h)]
    rfl
  | arity hid hc hl =>
    rw [specUnit_arity (slot hid hc) hl]
    rfl
  | conversion hid hc hl ha =>
    rw [specUnit_conversion (slot hid hc) hl ha]
    rfl
  | handlerError hid hc hl ha hh =>
    rw [specUnit_called (slot hid hc) hl ha]
    simp only [Cmd.instrument, hh, Iface.instrument, reportLog, callLog, errLog, UnitVerdict.error,
      List.append_assoc]
  | writeError hid hc hl ha hh hr | ok hid hc hl ha hh hr =>
    rw [specUnit_called (slot hid hc) hl ha]
    simp only [Cmd.instrument, hh, hr, Iface.instrument, reportLog, callLog, errLog,
      UnitVerdict.error, List.append_assoc, List.append_nil]

end

theorem specExec_instrument {σ ε : Type} (I : Iface σ) (fc : Nat → List TVal → List ε)
    (fe : Err → List ε) (us : List MsgUnit) : ∀ (cur : Node) (w : Writer) (s : σ) (l : List ε),
    specExec (I.instrument fc fe) cur us w (s, l) =
      ((specExec I cur us w s).1, ((specExec I cur us w s).2,
        l ++ (reports I cur us w s).flatMap (reportLog fc fe))) := by
  induction us with
  | nil =>
    intro _ _ _ _
    simp only [specExec, reports, List.flatMap_nil, List.append_nil]
  | cons u us ih =>
    intro cur w s l
    simp only [specExec, reports, instrument_root]
    cases hr : resolve I.root cur u.hdr.path with
    | none =>
      simp only [Iface.instrument, reportLog, callLog, errLog, UnitVerdict.error, List.flatMap_cons,
        List.flatMap_nil, List.append_nil, List.nil_append]
    | some np =>
      simp only [specUnit_instrument, ih, List.flatMap_cons, List.append_assoc]

def traceLog (r : Report) : List Ev :=
  reportLog (fun id tvs => [Ev.call id tvs]) (fun e => [Ev.error e]) r

def callEv (c : Nat × List TVal) : Ev := Ev.call c.1 c.2

theorem traceLog_fault (v : UnitVerdict) (inv : Option (Nat × List TVal)) (e : Err)
    (he : v.error = some e) : traceLog (v, inv) = inv.toList.map callEv ++ [Ev.error e] := by
  unfold traceLog reportLog
  simp only [he, errLog]
  cases inv <;> rfl

theorem specExec_traced {σ : Type} (I : Iface σ) (us : List MsgUnit) (cur : Node) (w : Writer)
    (s : σ) (l : List Ev) :
    specExec I.traced cur us w (s, l) =
      ((specExec I cur us w s).1, ((specExec I cur us w s).2,
        l ++ (reports I cur us w s).flatMap traceLog)) :=
  specExec_instrument I _ _ us cur w s l

/-- The two functions are those of `Iface.logged`. -/
theorem flatMap_errLog : ∀ R : List Report,
    R.flatMap (reportLog (fun _ _ => ([] : List Err)) fun e => [e]) =
      (R.map (·.1)).filterMap UnitVerdict.error
  | [] => rfl
  | (v, inv) :: R => by
    have hc : callLog (fun _ _ => ([] : List Err)) inv = [] := by
      rcases inv with _ | ⟨_, _⟩ <;> rfl
    rw [List.flatMap_cons, List.map_cons, List.filterMap_cons, flatMap_errLog R, reportLog, hc]
    cases v.error <;> rfl

end M6
end Scpi
