/-
`process` on a fault-free script refines the stream machine (C07).

Two invariances.  Under the inner step, the machine state reached after all the bytes read
so far (`absIn`) does not change when a message is handled.  Under the outer step, the
state the machine ends in after the bytes still to come (`absP` fed with the rest of the
stream) does not change when a read is issued.
-/
import Scpi.Proofs.StreamMachine
import Scpi.Proofs.ProcInv

namespace Scpi
open Proc

variable {σ : Type} (I : Iface σ) (n : Nat)

theorem take_drop_split {α : Type} (l : List α) {a b c : Nat} (hab : a ≤ b) (hbc : b ≤ c) :
    (l.take c).drop a = (l.take b).drop a ++ (l.take c).drop b := by
  rw [List.drop_take, List.drop_take, List.drop_take, ← Nat.sub_add_sub_cancel hbc hab,
    Nat.add_comm, List.take_add, List.drop_drop, Nat.add_sub_cancel' hab]

theorem take_drop_append {α : Type} {l u v : List α} {x z : Nat}
    (h : (l.take z).drop x = u ++ v) :
    (l.take (x + u.length)).drop x = u ∧ (l.take z).drop (x + u.length) = v := by
  constructor
  · rw [List.drop_take] at h ⊢
    rw [Nat.add_sub_cancel_left]
    exact (List.prefix_iff_eq_take.1
      ((List.prefix_append u v).trans (h ▸ List.take_prefix _ _))).symm
  · rw [← List.drop_drop, h, List.drop_left]

theorem window_split {buf window data : Bytes} {po ro re p : Nat} (hpr : po ≤ ro)
    (hw : slice buf ro re = some window) (hp : newlinePos window = some p)
    (hd : slice buf po (ro + p + 1) = some data) :
    ∃ a c, 10 ∉ a ∧ (buf.take re).drop ro = a ++ 10 :: c ∧
      data = (buf.take ro).drop po ++ (a ++ [10]) ∧ (buf.take re).drop (ro + p + 1) = c := by
  obtain ⟨_, _, rfl, _⟩ := slice_some hw
  obtain ⟨_, _, rfl, _⟩ := slice_some hd
  obtain ⟨a, c, hac, rfl, ha⟩ := newlinePos_some _ _ hp
  obtain ⟨h1, h2⟩ := take_drop_append (u := a ++ [10]) (v := c)
    (by rw [hac, List.append_assoc]; rfl)
  rw [List.length_append] at h1 h2
  have hro : ro ≤ ro + a.length + 1 := Nat.le_add_right_of_le (Nat.le_add_right _ _)
  exact ⟨a, c, ha, hac, by
    rw [take_drop_split buf hpr hro, ← h1]
    rfl, h2⟩

/-- The new `proc_offset` points at what `run_from` left unparsed: interface.rs sets it to
`terminator_pos + 1` if `remaining.is_empty()`, else to
`proc_offset + data.len() - remaining.len()`. -/
theorem drop_procOff {buf data used rest : Bytes} {po q : Nat} (hd : slice buf po q = some data)
    (hu : used ++ rest = data) :
    (buf.take q).drop (if rest = [] then q else po + data.length - rest.length) = rest := by
  obtain ⟨hle, _, hde, hl⟩ := slice_some hd
  have : (if rest = [] then q else po + data.length - rest.length) = po + used.length := by
    rw [← hu, List.length_append] at hl ⊢
    split
    · next hr =>
      rw [hr, List.length_nil, Nat.add_zero] at hl
      rw [hl, Nat.add_sub_cancel' hle]
    · rw [← Nat.add_assoc, Nat.add_sub_cancel]
  rw [this, ← List.drop_drop, ← hde, ← hu, List.drop_left]

/-- What the stream machine knows of a state of `process`: `cmd_buf[proc_offset..read_offset]`
is pending. -/
def absP {σ : Type} (st : PState σ) : SpecState σ :=
  ⟨(st.buf.take st.readOff).drop st.procOff, st.header, st.user, st.trace.filter PEv.nonRead⟩

/-- The stream machine (without the overflow rule) after the bytes received so far:
`cmd_buf[read_offset..read_end]` is still to be looked at. -/
def absIn {σ : Type} (I : Iface σ) (n readEnd : Nat) (st : PState σ) : SpecState σ :=
  ((st.buf.take readEnd).drop st.readOff).foldl (streamFeed I n) (absP st)

theorem filter_nonRead_respEvents (b : Bytes) :
    (respEvents b).filter PEv.nonRead = respEvents b := by
  unfold respEvents
  split
  · rfl
  · exact filter_nonRead_wf b

theorem innerStep_absIn (readEnd : Nat) (st : PState σ) (hinv : IInv n readEnd st) :
    match innerStep I n none readEnd st with
    | .inl st' => absIn I n readEnd st' = absIn I n readEnd st
    | .inr (st', e) =>
      e = none ∧ absIn I n readEnd st = absP { st' with readOff := readEnd } := by
  obtain ⟨hlen, hpr, hre, hen⟩ := hinv
  rcases innerStep_view I n readEnd st with ⟨e, h, he⟩ | ⟨window, p, data, hw, hp, hd, h⟩
  · rw [h none]
    rcases he with ⟨rfl, window, hw, hnl⟩ | ⟨_, hbad⟩
    · refine ⟨rfl, ?_⟩
      obtain ⟨_, _, rfl, _⟩ := slice_some hw
      unfold absIn absP
      rw [foldl_feed_plain I n _ _ (List.forall_mem_ne'.2 (newlinePos_none _ hnl)),
        take_drop_split st.buf hpr hre]
    · exact absurd ⟨hpr, hre, hlen ▸ hen⟩ hbad
  · rw [h none]
    obtain ⟨a, c, ha, hac, hdata, hrest⟩ := window_split hpr hw hp hd
    obtain ⟨o, ho, ⟨used, hused⟩, hc | ⟨_, _, hf, _⟩ | ⟨_, _, _, hf, _⟩⟩ :=
      msgStep_cases I n none st (st.readOff + p + 1) data
    · rw [hc.1]
      unfold absIn absP
      show List.foldl (streamFeed I n)
        ⟨(st.buf.take (st.readOff + p + 1)).drop _, o.header, o.s, _⟩
        ((st.buf.take readEnd).drop (st.readOff + p + 1)) = _
      -- what `run_from` left unparsed stays pending; the machine interprets the same bytes
      rw [drop_procOff hd hused, hrest, hac,
        foldl_feed_nl I n a c _ (List.forall_mem_ne'.2 ha)]
      subst ho hdata
      rw [List.filter_append, filter_nonRead_respEvents]
      -- `streamNewline` spells out what `respEvents` is
      rfl
    · cases hf
    · cases hf

theorem procInner_absIn (readEnd fuel : Nat) (st : PState σ)
    (hinv : IInv n readEnd st) (hfuel : readEnd - st.readOff < fuel) :
    ∃ st', procInner I n none fuel readEnd st = (st', none) ∧ IInv n readEnd st' ∧
      Frame st st' ∧ absIn I n readEnd st = absP { st' with readOff := readEnd } := by
  -- that the loop does not crash (in particular has fuel left) is `procInner_inv`; any other
  -- way out is the normal one, where `innerStep_absIn` gives the machine state
  have hq := procInner_invariant I n none readEnd
    (fun _ s => IInv n readEnd s ∧ absIn I n readEnd s = absIn I n readEnd st)
    (fun r => (∀ c, r.2 ≠ some (.crash c)) →
      r.2 = none ∧ absIn I n readEnd st = absP { r.1 with readOff := readEnd })
    (fun _ _ h => absurd rfl (h _))
    (fun _ s h => by
      have h1 := innerStep_inv I n none readEnd s h.1
      have h2 := innerStep_absIn I n readEnd s h.1
      generalize innerStep I n none readEnd s = r at h1 h2 ⊢
      cases r with
      | inl s' => exact ⟨h1.1, h2.trans h.2⟩
      | inr r => exact fun _ => ⟨h2.1, h.2.symm.trans h2.2⟩)
    fuel st ⟨hinv, rfl⟩
  obtain ⟨hi, hnc⟩ := procInner_inv I n none readEnd fuel st hinv
  obtain ⟨he, ha⟩ := hq (hnc hfuel)
  exact ⟨_, Prod.ext rfl he, hi, procInner_frame I n none readEnd fuel st, ha⟩

theorem absIn_afterRead (st : PState σ) (hinv : PInv n st) :
    absIn I n (st.readOff + readCount n st) (afterRead n st)
      = (st.stream.take (readCount n st)).foldl (streamFeed I n) (absP st) := by
  obtain ⟨hlen, _, hread⟩ := hinv
  obtain ⟨_, hcle, _⟩ := readCount_le n st
  have htk : (st.buf.take st.readOff).length = st.readOff := by
    rw [List.length_take, hlen]
    exact Nat.min_eq_left (Nat.le_of_lt hread)
  have hchunk : (st.buf.take st.readOff ++ st.stream.take (readCount n st)).length
      = st.readOff + readCount n st := by
    rw [List.length_append, htk, List.length_take, Nat.min_eq_left hcle]
  unfold absIn afterRead absP
  simp only []
  rw [List.filter_append, show List.filter PEv.nonRead [PEv.r _ _] = [] from rfl, List.append_nil,
    List.take_left' hchunk, List.drop_left' htk, List.append_assoc, List.take_left' htk]

theorem absP_discard (k : Nat) (st : PState σ) (buf' : Bytes) (hk : k ≤ buf'.length) :
    absP { st with buf := buf', procOff := 0, readOff := if n ≤ k then 0 else k,
                   header := if n ≤ k then I.root else st.header }
      = streamDiscard I n ⟨buf'.take k, st.header, st.user, st.trace.filter PEv.nonRead⟩ := by
  have hl : (buf'.take k).length = k := List.length_take.trans (Nat.min_eq_left hk)
  unfold absP streamDiscard
  by_cases h : n ≤ k
  · simp only [if_pos h, hl, ge_iff_le]
    rfl
  · simp only [if_neg h, hl, ge_iff_le]
    rfl

theorem outerStep_absP (st : PState σ) (hinv : PInv n st) :
    match outerStep I n none st with
    | .inl st' => st'.stream.foldl (streamSpec I n) (absP st')
        = st.stream.foldl (streamSpec I n) (absP st)
    | .inr out => out = stopOut (.transport .eos) st ∧ st.stream = [] := by
  have hread := hinv.lt
  rcases outerStep_view I n none st with ⟨e, hs, he⟩ | ⟨_, _, _, hs⟩
  · rw [hs]
    rcases he with ⟨_, hgt⟩ | ⟨c, _, hc⟩ | ⟨rfl, _, h1, _⟩
    · exact absurd hread (Nat.lt_asymm hgt)
    · cases hc
    · exact ⟨rfl, h1⟩
  · rw [hs]
    obtain ⟨st1, h1, hi1, ⟨hf2, _, _⟩, habs⟩ := procInner_absIn I n
      (st.readOff + readCount n st) (readCount n st + 1) (afterRead n st)
      (afterRead_inv n st hinv) (Nat.lt_succ_of_le (Nat.le_of_eq (Nat.add_sub_cancel_left ..)))
    rw [h1]
    rcases outerTail_cases I n (st.readOff + readCount n st) (st1, none) with
      ⟨e, he, _⟩ | ⟨_, hbad, _⟩ | ⟨_, buf', hl, htk, ht⟩
    · cases he
    · exact absurd ⟨Nat.le_trans hi1.pr hi1.re, by rw [hi1.len]; exact hi1.en⟩ hbad
    · rw [ht]
      obtain ⟨hcle, _, _⟩ := readCount_le n st
      have hfit : st.readOff + readCount n st - st1.procOff ≤ buf'.length := by
        rw [hl, hi1.len]
        exact Nat.le_trans (Nat.sub_le _ _) hi1.en
      -- the pending bytes end at `read_offset < N`, and the read delivers at most
      -- `N - read_offset` bytes
      have hpl : (absP st).pending.length = st.readOff - st.procOff := by
        show ((st.buf.take st.readOff).drop st.procOff).length = _
        rw [List.length_drop, List.length_take, hinv.len, Nat.min_eq_left (Nat.le_of_lt hread)]
      have hlt : (absP st).pending.length < n := by
        rw [hpl]
        exact Nat.lt_of_le_of_lt (Nat.sub_le _ _) hread
      have hroom : (absP st).pending.length + (st.stream.take (readCount n st)).length ≤ n := by
        rw [hpl, List.length_take]
        exact Nat.le_trans
          (Nat.add_le_add (Nat.sub_le _ _) (Nat.le_trans (Nat.min_le_left _ _) hcle))
          (Nat.le_of_eq (Nat.add_sub_cancel' (Nat.le_of_lt hread)))
      rw [absP] at habs
      show List.foldl _ (absP _) st1.stream = _
      -- shifting or resetting the buffer is the overflow rule on the machine state after the
      -- bytes just read, and that rule may wait until the end of a read (`foldl_spec_chunk`)
      rw [absP_discard I n _ st1 buf' hfit, htk, ← habs, absIn_afterRead I n st hinv,
        ← foldl_spec_chunk I n _ _ hlt hroom, hf2, ← List.foldl_append]
      exact congrArg _ (List.take_append_drop _ _)

theorem procLoop_refines (fuel : Nat) (st : PState σ)
    (hinv : PInv n st) (hfuel : st.sizes.length + st.stream.length < fuel) :
    (procLoop I n none fuel st).trace.filter PEv.nonRead
      = (st.stream.foldl (streamSpec I n) (absP st)).out ∧
    (procLoop I n none fuel st).user = (st.stream.foldl (streamSpec I n) (absP st)).user ∧
    (procLoop I n none fuel st).stop = .transport .eos ∧
    (procLoop I n none fuel st).final.stream = [] := by
  induction fuel generalizing st with
  | zero => exact absurd hfuel (Nat.not_lt_zero _)
  | succ k ih =>
    have h1 := outerStep_inv I n none st hinv
    have h2 := outerStep_absP I n st hinv
    rw [procLoop_succ]
    generalize outerStep I n none st = r at h1 h2 ⊢
    cases r with
    | inl st' =>
      rw [← h2]
      exact ih st' h1.1 (Nat.lt_of_lt_of_le h1.2 (Nat.le_of_lt_succ hfuel))
    | inr out =>
      obtain ⟨rfl, h0⟩ := h2
      rw [h0]
      exact ⟨rfl, rfl, rfl, h0⟩

end Scpi
