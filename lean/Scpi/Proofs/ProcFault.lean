/-
The run of `process` with an injected fault is the run without fault, cut (C10, T10.3).

The two runs are compared step by step: a step under the fault either does exactly what the
fault-free step does, or it stops with a fault code in a state whose trace is an initial segment of
the trace the fault-free step leaves.  Traces only grow, so the same holds of the loops.  Where the
cut falls (after exactly `k` calls) is not tracked in the comparison: `cut_at` reads it off the
trace invariant of the faulty run (`TInv`); of the fault-free run it uses only that its trace is the one
in its final state and that it ended with `eos`.
-/
import Scpi.Proofs.ProcTrace

namespace Scpi
namespace Proc

variable {σ : Type} (I : Iface σ) (n : Nat) (fault : Option (Nat × Int))

def Cut {σ : Type} (t0 : List PEv) (sF : PState σ) (eF : PEnd) : Prop :=
  (∃ c, eF = .transport (.fault c)) ∧ sF.trace <+: t0

theorem Cut.mono {σ : Type} {t0 t1 : List PEv} {sF : PState σ} {eF : PEnd} (h : Cut t0 sF eF)
    (ht : t0 <+: t1) : Cut t1 sF eF :=
  ⟨h.1, h.2.trans ht⟩

theorem msgStep_sim (st : PState σ) (q : Nat) (data : Bytes) :
    msgStep I n fault st q data = msgStep I n none st q data ∨
    ∃ sF eF, msgStep I n fault st q data = .inr (sF, some eF) ∧
      Cut (stOfInner (msgStep I n none st q data)).trace sF eF := by
  obtain ⟨o, rfl, _, h0 | ⟨_, c, hf, _⟩ | ⟨_, _, c, hf, _⟩⟩ := msgStep_cases I n none st q data
  · rw [h0.1]
    obtain ⟨o', rfl, _, hF | ⟨hb, c, _, hF⟩ | ⟨hb, _, c, _, hF⟩⟩ :=
      msgStep_cases I n fault st q data
    · exact .inl hF.1
    · exact .inr ⟨_, _, hF, ⟨c, rfl⟩, List.prefix_append _ _⟩
    · refine .inr ⟨_, _, hF, ⟨c, rfl⟩, ?_⟩
      show st.trace ++ [_] <+: st.trace ++ respEvents _
      rw [respEvents_ne hb]
      exact (List.prefix_append_right_inj _).mpr (List.prefix_append [_] [_])
  · cases hf
  · cases hf

theorem innerStep_sim (readEnd : Nat) (st : PState σ) :
    innerStep I n fault readEnd st = innerStep I n none readEnd st ∨
    ∃ sF eF, innerStep I n fault readEnd st = .inr (sF, some eF) ∧
      Cut (stOfInner (innerStep I n none readEnd st)).trace sF eF := by
  rcases innerStep_view I n readEnd st with ⟨e, h, _⟩ | ⟨window, p, data, _, _, _, h⟩
  · rw [h, h]
    exact .inl rfl
  · rw [h, h]
    exact msgStep_sim I n fault st _ data

theorem procInner_sim (readEnd : Nat) : ∀ (fuel : Nat) (st : PState σ),
    procInner I n fault fuel readEnd st = procInner I n none fuel readEnd st ∨
    ∃ sF eF, procInner I n fault fuel readEnd st = (sF, some eF) ∧
      Cut (procInner I n none fuel readEnd st).1.trace sF eF := by
  intro fuel
  induction fuel with
  | zero => exact fun _ => .inl rfl
  | succ k ih =>
    intro st
    rw [procInner_succ, procInner_succ]
    rcases innerStep_sim I n fault readEnd st with heq | ⟨sF, eF, hF, hcut⟩
    · rw [heq]
      cases innerStep I n none readEnd st with
      | inl st' => exact ih st'
      | inr r => exact .inl rfl
    · rw [hF]
      refine .inr ⟨sF, eF, rfl, ?_⟩
      generalize innerStep I n none readEnd st = r0 at hcut ⊢
      cases r0 with
      | inl st' => exact hcut.mono (procInner_frame I n none readEnd k st').2.2
      | inr r => exact hcut

theorem outerTail_trace (readEnd : Nat) (r : PState σ × Option PEnd) :
    (stOfOuter (outerTail I n readEnd r)).trace = r.1.trace := by
  rcases outerTail_cases I n readEnd r with ⟨e, _, ht⟩ | ⟨_, _, c, ht⟩ | ⟨_, buf', _, _, ht⟩
  · rw [ht]
    rfl
  · rw [ht]
    rfl
  · rw [ht]
    rfl

theorem outerStep_trace_prefix (st : PState σ) :
    st.trace <+: (stOfOuter (outerStep I n fault st)).trace := by
  rcases outerStep_view I n fault st with ⟨e, hs, _⟩ | ⟨_, _, _, hs⟩
  · rw [hs]
    exact List.prefix_rfl
  · rw [hs, outerTail_trace]
    exact (List.prefix_append st.trace [PEv.r (readCount n st) (n - st.readOff)]).trans
      (procInner_frame I n fault _ _ (afterRead n st)).2.2

theorem procLoop_trace_prefix (fuel : Nat) (st : PState σ) :
    st.trace <+: (procLoop I n fault fuel st).final.trace :=
  procLoop_invariant I n fault (fun _ s => st.trace <+: s.trace)
    (fun out => st.trace <+: out.final.trace) (fun _ h => h)
    (fun _ s h => by
      have := h.trans (outerStep_trace_prefix I n fault s)
      generalize outerStep I n fault s = r at this ⊢
      cases r <;> exact this)
    fuel st List.prefix_rfl

theorem outerStep_sim (st : PState σ) :
    outerStep I n fault st = outerStep I n none st ∨
    ∃ oF, outerStep I n fault st = .inr oF ∧
      Cut (stOfOuter (outerStep I n none st)).trace oF.final oF.stop := by
  have hext := outerStep_trace_prefix I n none st
  rw [outerStep_eq I n none] at hext ⊢
  rw [outerStep_eq I n fault]
  by_cases h0 : st.readOff > n
  · left
    rw [if_pos h0, if_pos h0]
  · rw [if_neg h0, faultAt_none] at hext
    rw [if_neg h0, if_neg h0, faultAt_none]
    cases hf : faultAt fault st.calls with
    | some c => exact .inr ⟨_, rfl, ⟨c, rfl⟩, hext⟩   -- the read is the faulty call
    | none =>
      dsimp only
      by_cases h2 : st.stream.isEmpty ∧ st.sizes.isEmpty
      · left
        rw [if_pos h2, if_pos h2]
      · rw [if_neg h2, if_neg h2]
        rcases procInner_sim I n fault (st.readOff + readCount n st) (readCount n st + 1)
          (afterRead n st) with heq | ⟨sF, eF, hF, hcut⟩
        · rw [heq]
          exact .inl rfl
        · rw [hF, outerTail_trace]
          exact .inr ⟨_, rfl, hcut⟩

theorem procLoop_sim : ∀ (fuel : Nat) (st : PState σ),
    procLoop I n fault fuel st = procLoop I n none fuel st ∨
    Cut (procLoop I n none fuel st).final.trace (procLoop I n fault fuel st).final
      (procLoop I n fault fuel st).stop := by
  intro fuel
  induction fuel with
  | zero => exact fun _ => .inl rfl
  | succ k ih =>
    intro st
    rw [procLoop_succ, procLoop_succ]
    rcases outerStep_sim I n fault st with heq | ⟨oF, hF, hcut⟩
    · rw [heq]
      cases outerStep I n none st with
      | inl st' => exact ih st'
      | inr out => exact .inl rfl
    · rw [hF]
      right
      generalize outerStep I n none st = r0 at hcut ⊢
      cases r0 with
      | inl st' => exact hcut.mono (procLoop_trace_prefix I n none k st')
      | inr out => exact hcut

theorem cut_at {σ : Type} {I : Iface σ} {n k : Nat} {code : Int} {Rp Rp' : Nat → Nat → Prop}
    {oF o0 : POut σ} (hF : OutOK I n (some (k, code)) Rp oF) (hncF : ∀ c, oF.stop ≠ .crash c)
    (h0 : OutOK I n none Rp' o0) (hnc0 : ∀ c, o0.stop ≠ .crash c)
    (hsim : oF = o0 ∨ Cut o0.final.trace oF.final oF.stop) :
    oF.trace = o0.trace.take k ∧ (k ≤ o0.trace.length → oF.stop = .transport (.fault code)) ∧
      (o0.trace.length < k → oF = o0) := by
  obtain ⟨htF, _, hxF⟩ := hF
  obtain ⟨ht0, _, hx0⟩ := h0
  have h0eos : o0.stop = .transport .eos := by
    rcases hx0 with ⟨⟨c, hs⟩, _⟩ | ⟨hs, _⟩ | ⟨_, _, hf, _⟩
    · exact absurd hs (hnc0 c)
    · exact hs
    · cases hf
  rcases hxF with ⟨⟨c, hs⟩, _⟩ | ⟨hs, hi, hlt, _⟩ | ⟨code', hs, hf, hi⟩
  · exact absurd hs (hncF c)
  · have hlt : oF.trace.length < k := by
      rw [htF, ← hi.calls_eq]
      exact hlt k code rfl
    rcases hsim with rfl | ⟨⟨c, hc⟩, _⟩
    · exact ⟨(List.take_of_length_le (Nat.le_of_lt hlt)).symm,
        fun hk => absurd hk (Nat.not_le_of_lt hlt), fun _ => rfl⟩
    · rw [hs] at hc
      cases hc
  · cases hf
    have hk : oF.trace.length = oF.final.calls := by rw [htF, hi.calls_eq]
    rcases hsim with rfl | ⟨_, hpre⟩
    · rw [h0eos] at hs
      cases hs
    · rw [← htF, ← ht0] at hpre
      have := hpre.length_le
      exact ⟨(List.prefix_iff_eq_take.mp hpre).trans (by rw [hk]), fun _ => hs,
        fun hlt => by omega⟩

end Proc
end Scpi
