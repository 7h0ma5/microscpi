/-
Writers (Response.lean).  A sequence of writer calls that succeeds has written exactly the bytes
of the calls, whatever the writer (`calls_ok`), and it succeeds when the writer has room and no
call is a refusal (`calls_fits`): C04, T4.3.  `Writer.Kept` is induction over what is done to a
writer; its instances are C04 "in execution order" (`Extends`) and C13 (`Within`).
-/
import Scpi.Response

namespace Scpi

def WCall.isFail : WCall → Bool
  | .fail _ => true
  | _ => false

@[simp] theorem WCall.isFail_direct (b : Bytes) : (WCall.direct b).isFail = false := rfl
@[simp] theorem WCall.isFail_fmt (ps : List Bytes) : (WCall.fmt ps).isFail = false := rfl

def callsBytes (cs : List WCall) : Bytes := (cs.map WCall.bytes).flatten

theorem callsBytes_nil : callsBytes [] = [] := rfl
theorem callsBytes_cons (c : WCall) (cs : List WCall) :
    callsBytes (c :: cs) = c.bytes ++ callsBytes cs := by simp [callsBytes]
theorem callsBytes_append (cs ds : List WCall) :
    callsBytes (cs ++ ds) = callsBytes cs ++ callsBytes ds := by simp [callsBytes]

namespace Writer

def Wrote (w w' : Writer) (b : Bytes) : Prop :=
  w'.cap = w.cap ∧ w'.buf = w.buf ++ b ∧
    ∃ ws : List Bytes, w'.evs = w.evs ++ ws.map WEv.w ∧ ws.flatten = b

theorem Wrote.refl (w : Writer) : Wrote w w [] := ⟨rfl, by simp, [], by simp, rfl⟩

theorem Wrote.trans {w1 w2 w3 : Writer} {a b : Bytes} (h1 : Wrote w1 w2 a) (h2 : Wrote w2 w3 b) :
    Wrote w1 w3 (a ++ b) := by
  obtain ⟨c1, b1, ws1, e1, f1⟩ := h1
  obtain ⟨c2, b2, ws2, e2, f2⟩ := h2
  refine ⟨c2.trans c1, by rw [b2, b1, List.append_assoc], ws1 ++ ws2, ?_, ?_⟩
  · rw [e2, e1]
    simp
  · simp [f1, f2]

theorem wrote_push (w : Writer) (b : Bytes) : Wrote w (w.push b) b :=
  ⟨rfl, rfl, [b], by simp [push], by simp⟩

theorem fits_iff (w : Writer) (n : Nat) :
    w.fits n = true ↔ ∀ c, w.cap = some c → w.buf.length + n ≤ c := by
  unfold fits
  cases w.cap with
  | none => exact ⟨fun _ _ h => (nomatch h), fun _ => rfl⟩
  | some c => exact ⟨fun h _ hc => Option.some.inj hc ▸ of_decide_eq_true h,
      fun h => decide_eq_true (h c rfl)⟩

theorem fits_mono {w : Writer} {n m : Nat} (h : w.fits n = true) (hm : m ≤ n) :
    w.fits m = true :=
  (fits_iff w m).2 fun c hc => Nat.le_trans (Nat.add_le_add_left hm _) ((fits_iff w n).1 h c hc)

theorem fits_wrote {w w' : Writer} {b : Bytes} {n : Nat} (hw : Wrote w w' b)
    (h : w.fits (b.length + n) = true) : w'.fits n = true := by
  refine (fits_iff w' n).2 fun c hc => ?_
  have := (fits_iff w _).1 h c (hw.1 ▸ hc)
  rw [hw.2.1, List.length_append]
  omega

theorem pushPieces_true : ∀ (ps : List Bytes) (w w' : Writer), w.pushPieces ps = (w', true) →
    Wrote w w' ps.flatten
  | [], w, w', h => by
    cases h
    exact Wrote.refl w
  | p :: ps, w, w', h => by
    unfold pushPieces at h
    split at h
    · exact (wrote_push w p).trans (pushPieces_true ps (w.push p) w' h)
    · cases h

theorem pushPieces_fits : ∀ (ps : List Bytes) (w : Writer), w.fits ps.flatten.length = true →
    ∃ w', w.pushPieces ps = (w', true)
  | [], w, _ => ⟨w, rfl⟩
  | p :: ps, w, h => by
    rw [List.flatten_cons, List.length_append] at h
    rw [pushPieces, if_pos (fits_mono h (Nat.le_add_right _ _))]
    exact pushPieces_fits ps (w.push p) (fits_wrote (wrote_push w p) h)

theorem call_ok {w w' : Writer} {c : WCall} (h : w.call c = (w', .ok ())) : Wrote w w' c.bytes := by
  cases c with
  | direct b =>
    simp only [call] at h
    split at h
    · cases h
      exact wrote_push w b
    · cases h
  | fmt ps =>
    simp only [call] at h
    split at h
    · cases h
      exact wrote_push w _
    · split at h
      · next hp =>
        cases h
        exact pushPieces_true ps w _ hp
      · cases h
  | fail e => cases h

theorem call_fits {w : Writer} {c : WCall} (hf : c.isFail = false)
    (h : w.fits c.bytes.length = true) : ∃ w', w.call c = (w', .ok ()) := by
  cases c with
  | direct b => exact ⟨w.push b, by simp only [call, show w.fits b.length = true from h, if_true]⟩
  | fmt ps =>
    simp only [call]
    split
    · exact ⟨_, rfl⟩
    · obtain ⟨w', hw'⟩ := pushPieces_fits ps w h
      exact ⟨w', by rw [hw']⟩
  | fail e => cases hf

theorem calls_ok : ∀ (cs : List WCall) (w w' : Writer), w.calls cs = (w', .ok ()) →
    Wrote w w' (callsBytes cs)
  | [], w, w', h => by
    cases h
    exact Wrote.refl w
  | c :: cs, w, w', h => by
    unfold calls at h
    split at h
    · next w1 hc =>
      rw [callsBytes_cons]
      exact (call_ok hc).trans (calls_ok cs w1 w' h)
    · cases h

theorem calls_fits : ∀ (cs : List WCall) (w : Writer), (∀ c ∈ cs, c.isFail = false) →
    w.fits (callsBytes cs).length = true → ∃ w', w.calls cs = (w', .ok ())
  | [], w, _, _ => ⟨w, rfl⟩
  | c :: cs, w, hf, h => by
    rw [callsBytes_cons, List.length_append] at h
    obtain ⟨w1, h1⟩ := call_fits (hf c List.mem_cons_self) (fits_mono h (Nat.le_add_right _ _))
    obtain ⟨w2, h2⟩ := calls_fits cs w1 (fun c hc => hf c (List.mem_cons_of_mem _ hc))
      (fits_wrote (call_ok h1) h)
    exact ⟨w2, by rw [calls, h1]; exact h2⟩

theorem calls_append (cs ds : List WCall) : ∀ w : Writer, w.calls (cs ++ ds) =
    match w.calls cs with
    | (w', .ok ()) => w'.calls ds
    | (w', .error e) => (w', .error e) := by
  induction cs with
  | nil => exact fun _ => rfl
  | cons c cs ih =>
    intro w
    simp only [List.cons_append, calls]
    rcases w.call c with ⟨w1, (e | ⟨⟨⟩⟩)⟩
    · rfl
    · exact ih w1

/-- The model does nothing to a writer but push a write that fits and flush, so such a
property survives `calls`, `execute` and `run_from`. -/
structure Kept (P : Writer → Prop) : Prop where
  push : ∀ (w : Writer) (b : Bytes), P w → w.fits b.length = true → P (w.push b)
  flush : ∀ w : Writer, P w → P w.flush

theorem Kept.pushPieces {P : Writer → Prop} (hP : Kept P) : ∀ (ps : List Bytes) (w : Writer),
    P w → P (w.pushPieces ps).1
  | [], _, h => h
  | p :: ps, w, h => by
    unfold Writer.pushPieces
    split
    · next hf => exact hP.pushPieces ps _ (hP.push w p h hf)
    · exact h

theorem Kept.call {P : Writer → Prop} (hP : Kept P) (w : Writer) (c : WCall) (h : P w) :
    P (w.call c).1 := by
  cases c with
  | direct b =>
    simp only [Writer.call]
    split
    · next hf => exact hP.push w b h hf
    · exact h
  | fmt ps =>
    simp only [Writer.call]
    split
    -- without a capacity the pieces go in as one write (`format!`), and everything fits
    · next hn => exact hP.push w _ h (by simp only [fits, hn])
    · have := hP.pushPieces ps w h
      generalize w.pushPieces ps = r at this ⊢
      rcases r with ⟨w1, (_ | _)⟩ <;> exact this
  | fail e => exact h

theorem Kept.calls {P : Writer → Prop} (hP : Kept P) : ∀ (cs : List WCall) (w : Writer),
    P w → P (w.calls cs).1
  | [], _, h => h
  | c :: cs, w, h => by
    have h1 := hP.call w c h
    unfold Writer.calls
    generalize w.call c = r at h1 ⊢
    rcases r with ⟨w1, (e | ⟨⟨⟩⟩)⟩
    · exact h1
    · exact hP.calls cs w1 h1

def Extends (w w' : Writer) : Prop :=
  w'.cap = w.cap ∧ (∃ b, w'.buf = w.buf ++ b) ∧ ∃ e, w'.evs = w.evs ++ e

theorem Extends.refl (w : Writer) : Extends w w := ⟨rfl, ⟨[], by simp⟩, [], by simp⟩

theorem kept_extends (w : Writer) : Kept (Extends w) where
  push := fun w' b ⟨c, ⟨b', hb⟩, e, he⟩ _ =>
    ⟨c, ⟨b' ++ b, by simp only [push, hb, List.append_assoc]⟩,
      e ++ [.w b], by simp only [push, he, List.append_assoc]⟩
  flush := fun w' ⟨c, hb, e, he⟩ =>
    ⟨c, hb, e ++ [.f], by simp only [flush, he, List.append_assoc]⟩

theorem Extends.buf_le {w w' : Writer} (h : Extends w w') : w.buf.length ≤ w'.buf.length := by
  obtain ⟨_, ⟨b, hb⟩, _⟩ := h
  rw [hb, List.length_append]
  omega

theorem extends_calls (cs : List WCall) (w : Writer) : Extends w (w.calls cs).1 :=
  (kept_extends w).calls cs w (.refl w)

/-- The writer is a `heapless::Vec<u8, c>`. -/
def Within (c : Nat) (w : Writer) : Prop := w.cap = some c ∧ w.buf.length ≤ c

theorem kept_within (c : Nat) : Kept (Within c) where
  push := fun w b ⟨hc, _⟩ hf =>
    ⟨hc, by simpa only [push, List.length_append] using (fits_iff w _).1 hf c hc⟩
  flush := fun _ h => h

end Writer
end Scpi
