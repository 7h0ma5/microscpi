/-
Where the first newline of a rendered message is.  After a fatal error `run_from` skips to the
first byte 10 (`afterNewline`).  The rendering of a well-formed unit contains that byte only
inside string and block payloads (`unitBody_noNl`), so for a message whose
payloads are free of it (`unitNlFree`) the first newline is the message terminator
(`renderMsg_shape`).
-/
import Scpi.Spec.MsgAst
import Scpi.Proofs.RunSteps
import Scpi.Proofs.RenderArgs

namespace Scpi
namespace Msg

def noNl (x : Bytes) : Bool := x.all (· != 10)

theorem noNl_nil : noNl [] = true := rfl

theorem noNl_append {a b : Bytes} (ha : noNl a = true) (hb : noNl b = true) :
    noNl (a ++ b) = true := by
  simp only [noNl, List.all_append, Bool.and_eq_true] at ha hb ⊢
  exact ⟨ha, hb⟩

theorem noNl_cons {b : Nat} {x : Bytes} (hb : b ≠ 10) (hx : noNl x = true) :
    noNl (b :: x) = true := by
  simp only [noNl, List.all_cons, Bool.and_eq_true, bne_iff_ne, ne_eq] at hx ⊢
  exact ⟨hb, hx⟩

theorem ne_nl_of {p : Nat → Bool} {b : Nat} (h : p b = true) (hp : p 10 = false) : b ≠ 10 := by
  rintro rfl
  rw [hp] at h
  cases h

theorem noNl_of_all {p : Nat → Bool} {x : Bytes} (h : x.all p = true) (hp : p 10 = false) :
    noNl x = true := by
  simp only [noNl, List.all_eq_true, bne_iff_ne, ne_eq] at h ⊢
  exact fun b hb => ne_nl_of (h b hb) hp

/-- The `afterNewline` lemmas speak of `10 ∉ x`. -/
theorem noNl_iff {x : Bytes} : noNl x = true ↔ 10 ∉ x := by
  simp only [noNl, List.all_eq_true, bne_iff_ne, ne_eq]
  exact List.forall_mem_ne'

theorem allWs_noNl {w : Bytes} (h : allWs w = true) : noNl w = true :=
  noNl_of_all (p := isWs) h rfl

theorem mnemonic_noNl {m : Bytes} (h : isMnemonicText m = true) : noNl m = true := by
  obtain ⟨b, t, rfl, hb, ht⟩ := isMnemonicText_cons h
  exact noNl_cons (ne_nl_of hb rfl) (noNl_of_all ht rfl)

theorem renderPath_noNl : ∀ {ms : List Bytes}, ms.all isMnemonicText = true →
    noNl (renderPath ms) = true
  | [], _ => rfl
  | [m], h => by
    simp only [List.all_cons, List.all_nil, Bool.and_true] at h
    exact mnemonic_noNl h
  | m :: m' :: ms, h => by
    rw [List.all_cons, Bool.and_eq_true] at h
    exact noNl_append (mnemonic_noNl h.1) (noNl_cons (by decide) (renderPath_noNl h.2))

theorem hdr_noNl {h : Hdr} (hw : h.path.wf = true) : noNl h.render = true := by
  refine noNl_append ?_ (by cases h.query <;> rfl)
  match h.path, hw with
  | .compound a ms, hw =>
    simp only [HdrPath.wf, Bool.and_eq_true] at hw
    exact noNl_append (by cases a <;> rfl) (renderPath_noNl hw.2)
  | .common n, hw => exact noNl_cons (by decide) (mnemonic_noNl hw)

theorem padDigits_noNl : ∀ (k n : Nat), noNl (padDigits k n) = true
  | 0, _ => rfl
  | k + 1, n => by
    exact noNl_append (padDigits_noNl k (n / 10)) (noNl_cons (by omega) rfl)

theorem lit_noNl {l : Lit} (hw : l.wf = true) (hn : litNlFree l = true) : noNl l.render = true := by
  cases l with
  | chars s => exact mnemonic_noNl hw
  | dec d => exact noNl_iff.2 fun h => absurd (DecText.render_bytes hw 10 h).1 (by decide)
  | hex up ds | bin up ds | oct up ds =>
    simp only [Lit.wf, Bool.and_eq_true] at hw
    exact noNl_cons (by decide) (noNl_cons (by cases up <;> decide) (noNl_of_all hw.2 rfl))
  | str q p =>
    simp only [Lit.wf, Bool.and_eq_true, Bool.or_eq_true, beq_iff_eq] at hw
    have hq : q ≠ 10 := by omega
    exact noNl_cons hq (noNl_append hn (noNl_cons hq rfl))
  | block nd p =>
    exact noNl_cons (by decide) (noNl_cons (by omega) (noNl_append (padDigits_noNl _ _) hn))

theorem renderMore_noNl : ∀ {ls : List Lit} {cs : List (Bytes × Bytes)},
    ls.all Lit.wf = true → ls.all litNlFree = true →
    cs.all (fun p => allWs p.1 && allWs p.2) = true → noNl (renderMore ls cs) = true
  | [], _, _, _, _ => rfl
  | l :: ls, cs, hw, hn, hc => by
    simp only [List.all_cons, Bool.and_eq_true] at hw hn
    obtain ⟨c1, c2, ct⟩ := commas_head_wf hc
    exact noNl_append (allWs_noNl c1) (noNl_cons (by decide) (noNl_append (allWs_noNl c2)
      (noNl_append (lit_noNl hw.1 hn.1) (renderMore_noNl hw.2 hn.2 ct))))

theorem renderArgs_noNl {ls : List Lit} {cs : List (Bytes × Bytes)}
    (hw : ls.all Lit.wf = true) (hn : ls.all litNlFree = true)
    (hc : cs.all (fun p => allWs p.1 && allWs p.2) = true) : noNl (renderArgs ls cs) = true := by
  cases ls with
  | nil => rfl
  | cons l ls =>
    simp only [List.all_cons, Bool.and_eq_true] at hw hn
    exact noNl_append (lit_noNl hw.1 hn.1) (renderMore_noNl hw.2 hn.2 hc)

def unitBody (u : MsgUnit) (ℓ : Lex) : Bytes :=
  ℓ.lead ++ (u.hdr.render ++ (ℓ.sep ++ (renderArgs u.lits ℓ.commas ++ ℓ.trail)))

theorem render_eq_body (u : MsgUnit) (ℓ : Lex) (t : Term) (rest : Bytes) :
    render u ℓ t ++ rest = unitBody u ℓ ++ t.byte :: rest := by
  simp only [render, unitBody, List.append_assoc, List.cons_append, List.nil_append]

/-- Not from `MsgUnit.wf`, which also bounds the number of literals: C03 needs this for a unit
with more than `maxArgs` of them. -/
theorem unitBody_noNl {u : MsgUnit} {ℓ : Lex} (hp : u.hdr.path.wf = true)
    (hl : u.lits.all Lit.wf = true) (hℓ : ℓ.wf = true) (hn : unitNlFree u = true) :
    noNl (unitBody u ℓ) = true := by
  simp only [Lex.wf, Bool.and_eq_true] at hℓ
  obtain ⟨⟨⟨h1, h2⟩, h3⟩, h4⟩ := hℓ
  exact noNl_append (allWs_noNl h1) (noNl_append (hdr_noNl hp) (noNl_append (allWs_noNl h2)
    (noNl_append (renderArgs_noNl hl hn h3) (allWs_noNl h4))))

theorem unitBody_noNl_of_wf {u : MsgUnit} {ℓ : Lex} (hu : u.wf = true) (hℓ : ℓ.wf = true)
    (hn : unitNlFree u = true) : noNl (unitBody u ℓ) = true := by
  simp only [MsgUnit.wf, Bool.and_eq_true] at hu
  exact unitBody_noNl hu.1.1 hu.1.2 hℓ hn

theorem afterNewline_render {u : MsgUnit} {ℓ : Lex} (hb : noNl (unitBody u ℓ) = true) (t : Term)
    (rest : Bytes) : afterNewline (render u ℓ t ++ rest) = afterNewline (t.byte :: rest) := by
  rw [render_eq_body, afterNewline_skip (noNl_iff.1 hb)]

theorem wfMsg_cons {u : MsgUnit} {ℓ : Lex} {m : List (MsgUnit × Lex)}
    (h : wfMsg ((u, ℓ) :: m) = true) :
    u.wf = true ∧ ℓ.wf = true ∧ ℓ.fits u = true ∧ wfMsg m = true := by
  simp only [wfMsg, List.all_cons, Bool.and_eq_true] at h
  exact ⟨h.1.1.1, h.1.1.2, h.1.2, h.2⟩

theorem renderSemis_noNl : ∀ {m : List (MsgUnit × Lex)}, wfMsg m = true →
    (units m).all unitNlFree = true → noNl (renderSemis m) = true
  | [], _, _ => rfl
  | (u, ℓ) :: m, hw, hn => by
    obtain ⟨hu, hℓ, _, hw'⟩ := wfMsg_cons hw
    simp only [units, List.map_cons, List.all_cons, Bool.and_eq_true] at hn
    rw [renderSemis, ← List.append_nil (render u ℓ .semi), render_eq_body, List.append_assoc]
    exact noNl_append (unitBody_noNl_of_wf hu hℓ hn.1)
      (noNl_cons (by decide) (renderSemis_noNl hw' hn.2))

theorem renderMsg_cons (u : MsgUnit) (ℓ : Lex) {m : List (MsgUnit × Lex)} (hne : m ≠ []) :
    renderMsg ((u, ℓ) :: m) = render u ℓ .semi ++ renderMsg m := by
  cases m with
  | nil => exact absurd rfl hne
  | cons _ _ => rfl

theorem renderMsg_concat (m : List (MsgUnit × Lex)) (u : MsgUnit) (ℓ : Lex) :
    renderMsg (m ++ [(u, ℓ)]) = renderSemis m ++ render u ℓ .nl := by
  induction m with
  | nil => rfl
  | cons p m ih =>
    have hne : m ++ [(u, ℓ)] ≠ [] := List.append_ne_nil_of_right_ne_nil _ (List.cons_ne_nil _ _)
    rw [List.cons_append, renderMsg_cons p.1 p.2 hne, ih, renderSemis, List.append_assoc]

theorem renderMsg_concat_body (m : List (MsgUnit × Lex)) (u : MsgUnit) (ℓ : Lex) :
    renderMsg (m ++ [(u, ℓ)]) = renderSemis m ++ unitBody u ℓ ++ [10] := by
  rw [renderMsg_concat, ← List.append_nil (render u ℓ .nl), render_eq_body, List.append_assoc]
  rfl

theorem exists_concat_of_wfMsg {m : List (MsgUnit × Lex)} (hne : m ≠ []) (hw : wfMsg m = true) :
    ∃ m' u ℓ, m = m' ++ [(u, ℓ)] ∧ wfMsg m' = true ∧ u.wf = true ∧ ℓ.wf = true ∧
      ℓ.fits u = true := by
  obtain ⟨m', ⟨u, ℓ⟩, rfl⟩ := (List.eq_nil_or_concat m).resolve_left hne
  rw [List.concat_eq_append, wfMsg, List.all_append, Bool.and_eq_true] at hw
  obtain ⟨hu, hℓ, hfit, _⟩ := wfMsg_cons hw.2
  exact ⟨m', u, ℓ, List.concat_eq_append, hw.1, hu, hℓ, hfit⟩

theorem units_concat (m : List (MsgUnit × Lex)) (u : MsgUnit) (ℓ : Lex) :
    units (m ++ [(u, ℓ)]) = units m ++ [u] :=
  List.map_append

theorem renderMsg_shape {m : List (MsgUnit × Lex)} (hne : m ≠ []) (hw : wfMsg m = true)
    (hn : (units m).all unitNlFree = true) :
    ∃ body, renderMsg m = body ++ [10] ∧ noNl body = true := by
  obtain ⟨m, u, ℓ, rfl, hwm, hu, hℓ, _⟩ := exists_concat_of_wfMsg hne hw
  rw [units_concat, List.all_append, List.all_cons, List.all_nil, Bool.and_true,
    Bool.and_eq_true] at hn
  exact ⟨renderSemis m ++ unitBody u ℓ, renderMsg_concat_body m u ℓ,
    noNl_append (renderSemis_noNl hwm hn.1) (unitBody_noNl_of_wf hu hℓ hn.2)⟩

end Msg
end Scpi
