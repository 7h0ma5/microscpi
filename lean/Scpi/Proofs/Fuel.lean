/-
The two loops of the parser carry a `fuel` argument only to be structurally recursive.
Every iteration consumes a separator, so any fuel above the input length gives the same
result; with the canonical fuel `input.length + 1` the loops satisfy plain unfolding equations
and induction principles, and later proofs never mention fuel.
-/
import Scpi.Proofs.Good

namespace Scpi

theorem argsLoop_fuel : ∀ (fuel fuel' : Nat) (args : List Value) (x : Bytes),
    x.length < fuel → x.length < fuel' → argsLoop fuel args x = argsLoop fuel' args x := by
  intro fuel
  induction fuel with
  | zero =>
    intro _ _ x h
    omega
  | succ n ih =>
    intro fuel' args x h h'
    cases fuel' with
    | zero => omega
    | succ m =>
      unfold argsLoop
      cases hs : argumentSeparator x with
      | ok i u =>
        have hi := separator_lt hs
        -- `cases hs :` has put `.ok i u` under the `match`; `simp only []` reduces it
        simp only []
        cases ha : argument i with
        | ok i2 arg =>
          have h2 := ((good_argument i).suffix _ _ ha).length_le
          simp only []
          rw [ih m _ i2 (by omega) (by omega)]
        | _ => rfl
      | _ => rfl

def argsRun (args : List Value) (x : Bytes) : PResult Unit × List Value :=
  argsLoop (x.length + 1) args x

/-- The step that `arguments` and its loop share. -/
def argStep (args : List Value) (x : Bytes) (k : Bytes → Value → PResult Unit × List Value) :
    PResult Unit × List Value :=
  match argument x with
  | .ok i arg => k i arg
  | .soft e => (.soft e, args)
  | .fatal e => (.fatal e, args)
  | .incomplete => (.incomplete, args)
  | .crash c => (.crash c, args)

theorem argStep_ok {args : List Value} {x i : Bytes} {arg : Value}
    {k : Bytes → Value → PResult Unit × List Value} (h : argument x = .ok i arg) :
    argStep args x k = k i arg := by
  unfold argStep
  rw [h]

theorem argsRun_eq (args : List Value) (x : Bytes) :
    argsRun args x =
      match argumentSeparator x with
      | .ok i _ =>
        argStep args i fun i2 arg =>
          if args.length < maxArgs then argsRun (args ++ [arg]) i2
          else (ofErr .UnexpectedNumberOfParameters, args)
      | .soft _ => (.ok x (), args)
      | .fatal e => (.fatal e, args)
      | .incomplete => (.incomplete, args)
      | .crash c => (.crash c, args) := by
  unfold argsRun argStep
  rw [argsLoop]
  cases hs : argumentSeparator x with
  | ok i u =>
    have hi := separator_lt hs
    simp only []
    cases ha : argument i with
    | ok i2 arg =>
      have h2 := ((good_argument i).suffix _ _ ha).length_le
      simp only []
      rw [argsLoop_fuel x.length (i2.length + 1) _ i2 (by omega) (Nat.lt_succ_self _)]
    | _ => rfl
  | _ => rfl

theorem arguments_eq (x : Bytes) : arguments x = argStep [] x fun i arg => argsRun [arg] i := by
  unfold arguments argStep
  cases argument x <;> rfl

theorem argsRun_induct {P : List Value → Bytes → Prop}
    (step : ∀ args x,
      (∀ i u i2 arg, argumentSeparator x = .ok i u → argument i = .ok i2 arg →
        P (args ++ [arg]) i2) → P args x) : ∀ args x, P args x := by
  intro args x
  generalize hn : x.length = n
  induction n using Nat.strongRecOn generalizing args x with
  | _ n ih =>
    refine step args x fun i u i2 arg hs ha => ?_
    have hi := separator_lt hs
    have h2 := ((good_argument i).suffix _ _ ha).length_le
    exact ih i2.length (by omega) _ _ rfl

theorem headerLoop_fuel : ∀ (fuel fuel' : Nat) (node header : Node) (x : Bytes),
    x.length < fuel → x.length < fuel' →
    headerLoop fuel node header x = headerLoop fuel' node header x := by
  intro fuel
  induction fuel with
  | zero =>
    intro _ _ _ x h
    omega
  | succ n ih =>
    intro fuel' node header x h h'
    cases fuel' with
    | zero => omega
    | succ m =>
      unfold headerLoop
      cases hs : headerSeparator x with
      | ok i u =>
        have hi := separator_lt hs
        simp only []
        cases hm : mnemonic i with
        | ok i2 res =>
          have h2 := ((good_mnemonic i).suffix _ _ hm).length_le
          simp only [PResult.bind]
          exact congrArg _ (funext fun child => ih m _ _ i2 (by omega) (by omega))
        | _ => rfl
      | _ => rfl

def headerRun (node header : Node) (x : Bytes) : PResult (Node × Option Node) :=
  headerLoop (x.length + 1) node header x

theorem headerRun_eq (node header : Node) (x : Bytes) :
    headerRun node header x =
      match headerSeparator x with
      | .ok i _ =>
        (mnemonic i).bind fun i2 res =>
        lookup node res fun child => headerRun child node i2
      | .soft _ => .ok x (node, some header)
      | .fatal e => .fatal e
      | .incomplete => .incomplete
      | .crash c => .crash c := by
  unfold headerRun
  rw [headerLoop]
  cases hs : headerSeparator x with
  | ok i u =>
    have hi := separator_lt hs
    simp only []
    cases hm : mnemonic i with
    | ok i2 res =>
      have h2 := ((good_mnemonic i).suffix _ _ hm).length_le
      simp only [PResult.bind]
      exact congrArg _ (funext fun child =>
        headerLoop_fuel _ _ _ _ i2 (by omega) (Nat.lt_succ_self _))
    | _ => rfl
  | _ => rfl

theorem headerRun_induct {P : Node → Node → Bytes → Prop}
    (step : ∀ node header x, (∀ i u i2 res child, headerSeparator x = .ok i u →
      mnemonic i = .ok i2 res → P child node i2) → P node header x) :
    ∀ node header x, P node header x := by
  intro node header x
  generalize hn : x.length = n
  induction n using Nat.strongRecOn generalizing node header x with
  | _ n ih =>
    refine step node header x fun i u i2 res child hs hm => ?_
    have hi := separator_lt hs
    have h2 := ((good_mnemonic i).suffix _ _ hm).length_le
    exact ih i2.length (by omega) _ _ _ rfl

end Scpi
