/-
C03, floats: `parseNumberBody` accepts exactly the texts of the specification `IsDecimalText`, with
the mantissa and exponent it gives (`parseNumberBody_eq_some_iff`); then `convertFloat` and
`parseFloat` by the form of their input, for every format.
-/
import Scpi.Spec.Numerals

namespace Scpi
namespace C03

theorem allDigits_nil : AllDigits [] := fun _ h => by cases h

theorem allDigits_cons {b : Nat} {s : Bytes} :
    AllDigits (b :: s) ↔ (48 ≤ b ∧ b ≤ 57) ∧ AllDigits s :=
  List.forall_mem_cons

theorem allDigits_append {s t : Bytes} (hs : AllDigits s) (ht : AllDigits t) :
    AllDigits (s ++ t) :=
  List.forall_mem_append.mpr ⟨hs, ht⟩

theorem allDigits_zeros (n : Nat) : AllDigits (List.replicate n 48) := by
  intro b hb
  have := (List.mem_replicate.mp hb).2
  omega

def NoDigitHead (r : Bytes) : Prop := ∀ b t, r = b :: t → ¬ (48 ≤ b ∧ b ≤ 57)

theorem noDigitHead_nil : NoDigitHead [] := fun _ _ h => by cases h

theorem noDigitHead_cons {b : Nat} {t : Bytes} (h : ¬ (48 ≤ b ∧ b ≤ 57)) :
    NoDigitHead (b :: t) := by
  intro b' t' he
  cases he
  exact h

theorem takeDigits_spec : ∀ (s : Bytes),
    s = (takeDigits s).1 ++ (takeDigits s).2 ∧ AllDigits (takeDigits s).1
  | [] => ⟨rfl, allDigits_nil⟩
  | b :: r => by
    unfold takeDigits
    by_cases hb : 48 ≤ b ∧ b ≤ 57
    · rw [if_pos hb]
      exact ⟨congrArg (b :: ·) (takeDigits_spec r).1,
        allDigits_cons.mpr ⟨hb, (takeDigits_spec r).2⟩⟩
    · rw [if_neg hb]
      exact ⟨rfl, allDigits_nil⟩

theorem takeDigits_append : ∀ (d r : Bytes), AllDigits d → NoDigitHead r →
    takeDigits (d ++ r) = (d, r)
  | [], [], _, _ => rfl
  | [], b :: t, _, hr => by
    show takeDigits (b :: t) = _
    unfold takeDigits
    rw [if_neg (hr b t rfl)]
  | b :: d, r, hd, hr => by
    obtain ⟨hb, hd'⟩ := allDigits_cons.mp hd
    simp only [List.cons_append]
    unfold takeDigits
    rw [if_pos hb, takeDigits_append d r hd' hr]

theorem decValue_append (ip fp : Bytes) :
    decValue fp (decValue ip 0) = decimalValue (ip ++ fp) := by
  unfold decimalValue digitsValue decValue
  rw [List.map_append, List.foldl_append, List.foldl_map, List.foldl_map]

theorem decValue_zero (ed : Bytes) : decValue ed 0 = decimalValue ed := decValue_append [] ed

theorem takeDigits_all {s : Bytes} (h : AllDigits s) : takeDigits s = (s, []) := by
  have := takeDigits_append s [] h noDigitHead_nil
  rwa [List.append_nil] at this

/-! `parseNumberBody` cut into its stages.  The later stages take the mantissa and the
exponent so far along, as `parseNumberBody` does, instead of returning the exponent to be
added afterwards: so `parseNumberBody_eq` holds by unfolding (`e0 + 0` is not `e0` by
unfolding). -/

def fracPart (r1 : Bytes) : Bytes × Bytes :=
  match r1 with
  | 46 :: r => takeDigits r
  | _ => ([], r1)

def signPart (r : Bytes) : Bool × Bytes :=
  match r with
  | 45 :: t => (true, t)
  | 43 :: t => (false, t)
  | _ => (false, r)

def expDigits (mant : Nat) (e0 : Int) (neg : Bool) (r' : Bytes) : Option (Nat × Int) :=
  if (takeDigits r').1.length = 0 then none
  else if (takeDigits r').2 != [] then none
  else
    let ev : Int := (decValue (takeDigits r').1 0 : Nat)
    some (mant, e0 + (if neg then -ev else ev))

def expTail (mant : Nat) (e0 : Int) (r2 : Bytes) : Option (Nat × Int) :=
  match r2 with
  | [] => some (mant, e0)
  | c :: r => if c == 69 || c == 101 then expDigits mant e0 (signPart r).1 (signPart r).2 else none

def numberTail (ip : Bytes) (fr : Bytes × Bytes) : Option (Nat × Int) :=
  if ip.length + fr.1.length = 0 then none
  else expTail (decValue fr.1 (decValue ip 0)) (-(fr.1.length : Int)) fr.2

theorem parseNumberBody_eq (s : Bytes) :
    parseNumberBody s = numberTail (takeDigits s).1 (fracPart (takeDigits s).2) := rfl

theorem fracPart_dot (r : Bytes) : fracPart (46 :: r) = takeDigits r := rfl

theorem fracPart_other (r1 : Bytes) (h : ∀ r, r1 ≠ 46 :: r) : fracPart r1 = ([], r1) := by
  unfold fracPart
  split
  next r => exact absurd rfl (h r)
  next => rfl

theorem fracPart_spec (r1 : Bytes) : AllDigits (fracPart r1).1 ∧
    ((r1 = (fracPart r1).2 ∧ (fracPart r1).1 = []) ∨
      r1 = 46 :: ((fracPart r1).1 ++ (fracPart r1).2)) := by
  unfold fracPart
  split
  next r => exact ⟨(takeDigits_spec r).2, .inr (congrArg _ (takeDigits_spec r).1)⟩
  next => exact ⟨allDigits_nil, .inl ⟨rfl, rfl⟩⟩

theorem signPart_digits {ed : Bytes} (hd : AllDigits ed) : signPart ed = (false, ed) := by
  unfold signPart
  split
  next => exact absurd (allDigits_cons.mp hd).1 (by decide)
  next => exact absurd (allDigits_cons.mp hd).1 (by decide)
  next => rfl

theorem isExponent_cons {c : Nat} {r : Bytes} {x : Int} :
    IsExponent (c :: r) x ↔ (c = 69 ∨ c = 101) ∧ (signPart r).2 ≠ [] ∧ AllDigits (signPart r).2 ∧
      x = if (signPart r).1 then -(decimalValue (signPart r).2 : Int)
        else decimalValue (signPart r).2 := by
  constructor
  · intro h
    cases h with
    | plain _ ed hc hne hd =>
      rw [signPart_digits hd]
      exact ⟨hc, hne, hd, rfl⟩
    | plus _ ed hc hne hd => exact ⟨hc, hne, hd, rfl⟩
    | minus _ ed hc hne hd => exact ⟨hc, hne, hd, rfl⟩
  · rintro ⟨hc, hne, hd, rfl⟩
    generalize hs : signPart r = sg at hne hd ⊢
    unfold signPart at hs
    split at hs <;> subst hs
    · exact .minus c _ hc hne hd
    · exact .plus c _ hc hne hd
    · exact .plain c _ hc hne hd

theorem isExponent_head {ex : Bytes} {x : Int} (h : IsExponent ex x) {b : Nat} {t : Bytes}
    (he : ex = b :: t) : b = 69 ∨ b = 101 := by
  subst he
  exact (isExponent_cons.mp h).1

theorem expDigits_iff {mant : Nat} {e0 : Int} {neg : Bool} {r' : Bytes} {y : Nat × Int} :
    expDigits mant e0 neg r' = some y ↔ r' ≠ [] ∧ AllDigits r' ∧
      y = (mant, e0 + if neg then -(decimalValue r' : Int) else decimalValue r') := by
  unfold expDigits
  constructor
  · intro h
    obtain ⟨hs, hd⟩ := takeDigits_spec r'
    generalize takeDigits r' = p at h hs hd
    by_cases hlen : p.1.length = 0
    · rw [if_pos hlen] at h
      cases h
    by_cases hr3 : (p.2 != []) = true
    · rw [if_neg hlen, if_pos hr3] at h
      cases h
    rw [if_neg hlen, if_neg hr3, decValue_zero] at h
    rw [Decidable.not_not.mp (mt bne_iff_ne.mpr hr3), List.append_nil] at hs
    subst hs
    exact ⟨mt (congrArg List.length) hlen, hd, (Option.some.inj h).symm⟩
  · rintro ⟨hne, hd, rfl⟩
    rw [takeDigits_all hd, if_neg (mt List.length_eq_zero_iff.mp hne)]
    show some _ = _
    rw [decValue_zero]

theorem expTail_iff {mant : Nat} {e0 : Int} {r2 : Bytes} {y : Nat × Int} :
    expTail mant e0 r2 = some y ↔ ∃ x, IsExponent r2 x ∧ y = (mant, e0 + x) := by
  cases r2 with
  | nil =>
    constructor
    · rintro ⟨⟩
      exact ⟨0, .absent, by rw [Int.add_zero]⟩
    · rintro ⟨x, hx, rfl⟩
      cases hx
      rw [Int.add_zero]
      rfl
  | cons c r =>
    unfold expTail
    simp only [isExponent_cons]
    by_cases hc : c = 69 ∨ c = 101
    · rw [if_pos (by simpa using hc), expDigits_iff]
      constructor
      · rintro ⟨hne, hd, rfl⟩
        exact ⟨_, ⟨hc, hne, hd, rfl⟩, rfl⟩
      · rintro ⟨x, ⟨-, hne, hd, rfl⟩, rfl⟩
        exact ⟨hne, hd, rfl⟩
    · rw [if_neg (by simpa using hc)]
      exact ⟨fun h => (nomatch h), fun ⟨x, ⟨hc', _⟩, _⟩ => absurd hc' hc⟩

theorem numberTail_iff {ip : Bytes} {fr : Bytes × Bytes} {mant : Nat} {exp10 : Int} :
    numberTail ip fr = some (mant, exp10) ↔ ip ++ fr.1 ≠ [] ∧ mant = decimalValue (ip ++ fr.1) ∧
      ∃ x, IsExponent fr.2 x ∧ exp10 = x - (fr.1.length : Int) := by
  unfold numberTail
  rw [← List.length_append, decValue_append, Ne, ← List.length_eq_zero_iff]
  split
  next h0 => exact ⟨fun h => (nomatch h), fun h => absurd h0 h.1⟩
  next h0 =>
    rw [expTail_iff]
    constructor
    · rintro ⟨x, hx, h⟩
      cases h
      exact ⟨h0, rfl, x, hx, by omega⟩
    · rintro ⟨-, rfl, x, hx, rfl⟩
      exact ⟨x, hx, by rw [Int.sub_eq_add_neg, Int.add_comm]⟩

theorem parseNumberBody_eq_some_iff (s : Bytes) (mant : Nat) (exp10 : Int) :
    parseNumberBody s = some (mant, exp10) ↔ IsDecimalText s mant exp10 := by
  rw [parseNumberBody_eq, numberTail_iff]
  constructor
  · rintro ⟨hne, hm, x, hex, he⟩
    obtain ⟨hs, hip⟩ := takeDigits_spec s
    obtain ⟨hfp, hr1⟩ := fracPart_spec (takeDigits s).2
    refine ⟨_, _, _, x, hip, hfp, hne, hex, ?_, hm, he⟩
    generalize fracPart (takeDigits s).2 = fr at hr1 ⊢
    generalize takeDigits s = p at hs hr1 ⊢
    subst hs
    rcases hr1 with ⟨h1, h2⟩ | h1
    · exact .inl ⟨by rw [← h1], h2⟩
    · exact .inr (by rw [← h1])
  · rintro ⟨ip, fp, ex, x, hip, hfp, hne, hex, hs, rfl, rfl⟩
    have hexh : NoDigitHead ex := fun b t he => by
      have := isExponent_head hex he
      omega
    have hdot : ∀ r, ex ≠ 46 :: r := fun r he => absurd (isExponent_head hex he) (by decide)
    rcases hs with ⟨rfl, rfl⟩ | rfl
    · rw [takeDigits_append ip ex hip hexh, fracPart_other ex hdot]
      exact ⟨hne, rfl, x, hex, rfl⟩
    · rw [takeDigits_append ip (46 :: (fp ++ ex)) hip (noDigitHead_cons (by omega)), fracPart_dot,
        takeDigits_append fp ex hfp hexh]
      exact ⟨hne, rfl, x, hex, rfl⟩

theorem convertFloat_iff (f : FloatFmt) (mk : Nat → TVal) (v : Value) (tv : TVal) :
    (convertFloat f mk v = .ok tv ↔ ∃ s b, v = .dec s ∧ parseFloat f s = some b ∧ tv = mk b) ∧
    (∀ s, v = .dec s → parseFloat f s = none →
      convertFloat f mk v = .error (.std .NumericDataError)) ∧
    ((∀ s, v ≠ .dec s) → convertFloat f mk v = .error (.std .DataTypeError)) := by
  have hnd : (∀ s, v ≠ .dec s) → convertFloat f mk v = .error (.std .DataTypeError) := by
    intro h
    cases v with
    | dec s => exact absurd rfl (h s)
    | _ => rfl
  refine ⟨⟨fun h => ?_, fun ⟨s, b, hs, hb, ht⟩ => ?_⟩, fun s hs hn => ?_, hnd⟩
  · cases v with
    | dec s =>
      simp only [convertFloat] at h
      cases hp : parseFloat f s with
      | none =>
        rw [hp] at h
        cases h
      | some b =>
        rw [hp] at h
        cases h
        exact ⟨s, b, rfl, hp, rfl⟩
    | _ => cases h
  · subst hs ht
    simp only [convertFloat, hb]
  · subst hs
    simp only [convertFloat, hn]

theorem parseFloat_cons (f : FloatFmt) (c : Nat) (rest : Bytes) :
    parseFloat f (c :: rest) =
      let body := if c = 45 ∨ c = 43 then rest else c :: rest
      let sgn := if c = 45 then f.signBit else 0
      match parseNumberBody body with
      | some (m, e) => some (roundDec f m e + sgn)
      | none =>
        let lower := body.map lowerAscii
        if lower == strBytes "nan" then some (f.nanBits + sgn)
        else if lower == strBytes "inf" || lower == strBytes "infinity" then some (f.infBits + sgn)
        else none := by
  by_cases h45 : c = 45
  · subst h45
    rfl
  by_cases h43 : c = 43
  · subst h43
    rfl
  unfold parseFloat
  simp only [beq_iff_eq, h45, h43, or_self, if_false]
  rfl

theorem IsDecimalText.head {s : Bytes} {m : Nat} {e : Int} (h : IsDecimalText s m e) :
    ∃ c rest, s = c :: rest ∧ c ≠ 45 ∧ c ≠ 43 := by
  obtain ⟨ip, fp, ex, x, hip, hfp, hne, hex, hs, -, -⟩ := h
  cases ip with
  | cons b ip' =>
    have := (allDigits_cons.mp hip).1
    rcases hs with ⟨rfl, -⟩ | rfl <;> exact ⟨b, _, rfl, by omega, by omega⟩
  | nil =>
    rcases hs with ⟨-, rfl⟩ | rfl
    · exact absurd rfl hne
    · exact ⟨46, _, rfl, by omega, by omega⟩

theorem parseFloat_signed (f : FloatFmt) {sign : Option Nat}
    (hs : ∀ c, sign = some c → c = 43 ∨ c = 45) {body : Bytes} {mant : Nat} {exp10 : Int}
    (h : IsDecimalText body mant exp10) :
    parseFloat f (sign.toList ++ body) =
      some (roundDec f mant exp10 + if sign = some 45 then f.signBit else 0) := by
  have hp := (parseNumberBody_eq_some_iff _ _ _).mpr h
  cases sign with
  | none =>
    obtain ⟨c, rest, rfl, h45, h43⟩ := h.head
    rw [Option.toList_none, List.nil_append, parseFloat_cons]
    simp only [h45, h43, or_self, if_false, hp, reduceCtorEq]
  | some sg =>
    rw [Option.toList_some, List.singleton_append, parseFloat_cons]
    rcases hs sg rfl with rfl | rfl <;> simp [hp]

end C03
end Scpi
