/-
`run_from` one iteration at a time.  One iteration of the loop is a function (`unitStep`) with one
equation per verdict of `parse` (one for both kinds of error, none for `crash`, which `parse`
never returns) and one case analysis (`unitStep_cases₂`, for two steps from the
same header path and input).  `runLoop` does not depend on its fuel, so `runFrom` unfolds one step
at a time (`runFrom_step`) and has an induction principle (`runFrom_induct`); what a run keeps
because every step keeps it comes from `runFrom_inv₂`.  No other file unfolds `runLoop`.
-/
import Scpi.Proofs.GoodParse
import Scpi.Proofs.Execute

namespace Scpi

theorem afterNewline_nl (r : Bytes) : afterNewline (10 :: r) = some r := rfl

theorem afterNewline_cons_ne {b : Nat} (hb : b ≠ 10) (x : Bytes) :
    afterNewline (b :: x) = afterNewline x :=
  if_neg (by simpa using hb)

theorem afterNewline_skip :
    ∀ {pre : Bytes}, 10 ∉ pre → ∀ y, afterNewline (pre ++ y) = afterNewline y
  | [], _, _ => rfl
  | _ :: _, h, y => (afterNewline_cons_ne (fun e => h (e ▸ List.mem_cons_self)) _).trans
      (afterNewline_skip (fun m => h (List.mem_cons_of_mem _ m)) y)

theorem afterNewline_eq_some_iff {x r : Bytes} :
    afterNewline x = some r ↔ ∃ pre, x = pre ++ 10 :: r ∧ 10 ∉ pre := by
  refine ⟨fun h => ?_, fun ⟨pre, hx, hp⟩ => hx ▸ afterNewline_skip hp _⟩
  induction x with
  | nil => cases h
  | cons b x ih =>
    by_cases hb : b = 10
    · subst hb
      cases h
      exact ⟨[], rfl, List.not_mem_nil⟩
    · rw [afterNewline_cons_ne hb] at h
      obtain ⟨pre, rfl, hp⟩ := ih h
      exact ⟨b :: pre, rfl, fun m => (List.mem_cons.1 m).elim (fun e => hb e.symm) hp⟩

theorem afterNewline_eq_none_iff {x : Bytes} : afterNewline x = none ↔ 10 ∉ x := by
  induction x with
  | nil => exact ⟨fun _ => List.not_mem_nil, fun _ => rfl⟩
  | cons b x ih =>
    by_cases hb : b = 10
    · subst hb
      exact ⟨nofun, fun h => absurd List.mem_cons_self h⟩
    · rw [afterNewline_cons_ne hb, ih, List.mem_cons, not_or]
      exact ⟨fun h => ⟨Ne.symm hb, h⟩, And.right⟩

theorem afterNewline_suffix (i r : Bytes) (h : afterNewline i = some r) :
    r.length < i.length ∧ r <:+ i := by
  obtain ⟨pre, rfl, _⟩ := afterNewline_eq_some_iff.1 h
  exact ⟨by simp; omega, pre ++ [10], by simp⟩

theorem afterNewline_append (x r y : Bytes) (h : afterNewline x = some r) :
    afterNewline (x ++ y) = some (r ++ y) := by
  obtain ⟨pre, rfl, hp⟩ := afterNewline_eq_some_iff.1 h
  exact afterNewline_eq_some_iff.2 ⟨pre, by rw [List.append_assoc, List.cons_append], hp⟩

structure Cfg (σ : Type) where
  header : Node
  input : Bytes
  w : Writer
  s : σ

inductive Step (σ : Type) where
  | stop (out : RunOut σ)
  | next (c : Cfg σ)

/-- `run_from` (interface.rs) after `execute`: the root after a terminator, else `call.header`
unless that is `None` (a common command). -/
def headerAfter (root header : Node) (call : CommandCall) : Node :=
  if call.terminated then root
  else match call.header with
    | some h => h
    | none => header

theorem headerAfter_of_terminated {root h : Node} {call : CommandCall}
    (ht : call.terminated = true) : headerAfter root h call = root :=
  if_pos ht

theorem headerAfter_of_not_terminated {root h : Node} {call : CommandCall}
    (ht : call.terminated = false) : headerAfter root h call = call.header.getD h := by
  rw [headerAfter, ht, if_neg Bool.false_ne_true]
  cases call.header <;> rfl

def reportExec {σ : Type} (I : Iface σ) (s : σ) : ExecRes → σ
  | .err e => I.onError s e
  | _ => s

/-- One iteration of the loop of `run_from` on a non-empty input. -/
def unitStep {σ : Type} (I : Iface σ) (c : Cfg σ) : Step σ :=
  match parse I.root c.header c.input with
  | .crash cr => .stop { rest := c.input, header := c.header, w := c.w, s := c.s, crash := some cr }
  | .incomplete => .stop { rest := c.input, header := c.header, w := c.w, s := c.s }
  | .soft e =>
    match afterNewline c.input with
    | some rest => .next ⟨I.root, rest, c.w, I.onError c.s (parseErrToErr e)⟩
    | none => .stop { rest := c.input, header := c.header, w := c.w,
                      s := I.onError c.s (parseErrToErr e) }
  | .fatal e =>
    match afterNewline c.input with
    | some rest => .next ⟨I.root, rest, c.w, I.onError c.s e⟩
    | none => .stop { rest := c.input, header := c.header, w := c.w, s := I.onError c.s e }
  | .ok i none => .next ⟨I.root, i, c.w, c.s⟩
  | .ok i (some call) =>
    match execute I call c.w c.s with
    | (s', w', .crash cr) =>
      .stop { rest := c.input, header := c.header, w := w', s := s', crash := some cr }
    | (s', w', r) => .next ⟨headerAfter I.root c.header call, i, w', reportExec I s' r⟩

/-- Stated for a configuration `c`, so that the arguments of `parse` and `execute` are the same
terms on both sides. -/
theorem runLoop_succ {σ : Type} (I : Iface σ) (fuel : Nat) (c : Cfg σ) :
    runLoop I (fuel + 1) c.header c.input c.w c.s =
      if c.input.isEmpty then { rest := [], header := c.header, w := c.w, s := c.s }
      else match unitStep I c with
        | .stop o => o
        | .next c => runLoop I fuel c.header c.input c.w c.s := by
  rw [runLoop, unitStep]
  cases c.input.isEmpty
  · cases parse I.root c.header c.input with
    | ok i oc =>
      cases oc with
      | none => rfl
      | some call =>
        dsimp only
        rcases execute I call c.w c.s with ⟨s', w', r⟩
        cases r <;> rfl
    | soft e => cases afterNewline c.input <;> rfl
    | fatal e => cases afterNewline c.input <;> rfl
    | _ => rfl
  · rfl

theorem unitStep_incomplete {σ : Type} (I : Iface σ) (c : Cfg σ)
    (hp : parse I.root c.header c.input = .incomplete) :
    unitStep I c = .stop { rest := c.input, header := c.header, w := c.w, s := c.s } := by
  rw [unitStep, hp]

theorem unitStep_empty_message {σ : Type} (I : Iface σ) (c : Cfg σ) (i : Bytes)
    (hp : parse I.root c.header c.input = .ok i none) :
    unitStep I c = .next ⟨I.root, i, c.w, c.s⟩ := by
  rw [unitStep, hp]

/-- `execute` cannot crash, so the branch of `unitStep` that stops with a crash is never taken. -/
theorem unitStep_call {σ : Type} (I : Iface σ) (c : Cfg σ) (i : Bytes) (call : CommandCall)
    (hp : parse I.root c.header c.input = .ok i (some call)) :
    unitStep I c = .next ⟨headerAfter I.root c.header call, i, (execute I call c.w c.s).2.1,
      reportExec I (execute I call c.w c.s).1 (execute I call c.w c.s).2.2⟩ := by
  rw [unitStep, hp]
  simp only []
  have hnc := execute_no_crash I call c.w c.s
  rcases he : execute I call c.w c.s with ⟨s', w', r⟩
  rw [he] at hnc
  cases r with
  | ok => rfl
  | err e => rfl
  | crash cr => exact absurd rfl (hnc cr)

/-- The unit at `c` is rejected by the parser; `e` is what the error handler gets. -/
def ParseFault {σ : Type} (I : Iface σ) (c : Cfg σ) (e : Err) : Prop :=
  (∃ e', parse I.root c.header c.input = .soft e' ∧ e = parseErrToErr e') ∨
  parse I.root c.header c.input = .fatal e

theorem unitStep_fault {σ : Type} (I : Iface σ) (c : Cfg σ) (e : Err) (hf : ParseFault I c e) :
    unitStep I c =
      match afterNewline c.input with
      | some rest => .next ⟨I.root, rest, c.w, I.onError c.s e⟩
      | none => .stop { rest := c.input, header := c.header, w := c.w, s := I.onError c.s e } := by
  unfold unitStep
  rcases hf with ⟨e', hp, rfl⟩ | hp <;> rw [hp]

/-- The case of a step depends on the header path and the input only, so a second step from the
same place (other writer and user state, possibly another interface over the same tree) is in
the same case.  No crash case: `parse_strict`, `execute_no_crash`.  The second configuration is
written field by field, so that one built from `c` by a definition (`c.withLog l`) is of that
form by unfolding. -/
theorem unitStep_cases₂ {σ τ : Type} (I : Iface σ) (J : Iface τ) (hroot : J.root = I.root)
    (c : Cfg σ) (w' : Writer) (s' : τ) {motive : Step σ → Step τ → Prop}
    (incomplete : parse I.root c.header c.input = .incomplete →
      motive (.stop { rest := c.input, header := c.header, w := c.w, s := c.s })
        (.stop { rest := c.input, header := c.header, w := w', s := s' }))
    (faultStop : ∀ e, ParseFault I c e → afterNewline c.input = none →
      motive (.stop { rest := c.input, header := c.header, w := c.w, s := I.onError c.s e })
        (.stop { rest := c.input, header := c.header, w := w', s := J.onError s' e }))
    (faultNext : ∀ e rest, ParseFault I c e → afterNewline c.input = some rest →
      motive (.next ⟨I.root, rest, c.w, I.onError c.s e⟩)
        (.next ⟨J.root, rest, w', J.onError s' e⟩))
    (empty : ∀ i, parse I.root c.header c.input = .ok i none →
      motive (.next ⟨I.root, i, c.w, c.s⟩) (.next ⟨J.root, i, w', s'⟩))
    (call : ∀ i call, parse I.root c.header c.input = .ok i (some call) →
      motive
        (.next ⟨headerAfter I.root c.header call, i, (execute I call c.w c.s).2.1,
          reportExec I (execute I call c.w c.s).1 (execute I call c.w c.s).2.2⟩)
        (.next ⟨headerAfter J.root c.header call, i, (execute J call w' s').2.1,
          reportExec J (execute J call w' s').1 (execute J call w' s').2.2⟩)) :
    motive (unitStep I c) (unitStep J ⟨c.header, c.input, w', s'⟩) := by
  have hJ : parse J.root c.header c.input = parse I.root c.header c.input := by rw [hroot]
  have fault : ∀ e, ParseFault I c e →
      motive (unitStep I c) (unitStep J ⟨c.header, c.input, w', s'⟩) := fun e hf => by
    rw [unitStep_fault I c e hf, unitStep_fault J ⟨c.header, c.input, w', s'⟩ e
      (hf.imp (fun ⟨e', h, he⟩ => ⟨e', hJ.trans h, he⟩) hJ.trans)]
    cases ha : afterNewline c.input with
    | none => exact faultStop e hf ha
    | some r => exact faultNext e r hf ha
  cases hp : parse I.root c.header c.input with
  | crash cr => exact absurd hp ((parse_strict I.root c.header c.input).noCrash cr)
  | incomplete =>
    rw [unitStep_incomplete I c hp, unitStep_incomplete J ⟨c.header, c.input, w', s'⟩ (hJ.trans hp)]
    exact incomplete hp
  | soft e' => exact fault _ (.inl ⟨e', hp, rfl⟩)
  | fatal e => exact fault e (.inr hp)
  | ok i oc =>
    cases oc with
    | none =>
      rw [unitStep_empty_message I c i hp,
        unitStep_empty_message J ⟨c.header, c.input, w', s'⟩ i (hJ.trans hp)]
      exact empty i hp
    | some cl =>
      rw [unitStep_call I c i cl hp, unitStep_call J ⟨c.header, c.input, w', s'⟩ i cl (hJ.trans hp)]
      exact call i cl hp

theorem unitStep_cases {σ : Type} (I : Iface σ) (c : Cfg σ) {motive : Step σ → Prop}
    (incomplete : parse I.root c.header c.input = .incomplete →
      motive (.stop { rest := c.input, header := c.header, w := c.w, s := c.s }))
    (faultStop : ∀ e, ParseFault I c e → afterNewline c.input = none →
      motive (.stop { rest := c.input, header := c.header, w := c.w, s := I.onError c.s e }))
    (faultNext : ∀ e rest, ParseFault I c e → afterNewline c.input = some rest →
      motive (.next ⟨I.root, rest, c.w, I.onError c.s e⟩))
    (empty : ∀ i, parse I.root c.header c.input = .ok i none → motive (.next ⟨I.root, i, c.w, c.s⟩))
    (call : ∀ i call, parse I.root c.header c.input = .ok i (some call) →
      motive (.next ⟨headerAfter I.root c.header call, i, (execute I call c.w c.s).2.1,
        reportExec I (execute I call c.w c.s).1 (execute I call c.w c.s).2.2⟩)) :
    motive (unitStep I c) :=
  unitStep_cases₂ I I rfl c c.w c.s (motive := fun st _ => motive st) incomplete faultStop faultNext
    empty call

theorem unitStep_position {σ : Type} (I : Iface σ) (c : Cfg σ) :
    match unitStep I c with
    | .stop o => o.crash = none ∧ o.rest = c.input ∧ o.header = c.header
    | .next c' => c'.input.length < c.input.length ∧ c'.input <:+ c.input :=
  have hp := parse_strict I.root c.header c.input
  unitStep_cases I c
    (motive := fun st => match st with
      | .stop o => o.crash = none ∧ o.rest = c.input ∧ o.header = c.header
      | .next c' => c'.input.length < c.input.length ∧ c'.input <:+ c.input)
    (fun _ => ⟨rfl, rfl, rfl⟩) (fun _ _ _ => ⟨rfl, rfl, rfl⟩)
    (fun _ _ _ ha => afterNewline_suffix _ _ ha)
    (fun _ e => ⟨hp.lt _ _ e, hp.suffix _ _ e⟩) (fun _ _ e => ⟨hp.lt _ _ e, hp.suffix _ _ e⟩)

theorem unitStep_next_lt {σ : Type} (I : Iface σ) (c c' : Cfg σ) (h : unitStep I c = .next c') :
    c'.input.length < c.input.length ∧ c'.input <:+ c.input := by
  have := unitStep_position I c
  rwa [h] at this

theorem unitStep_stop_no_crash {σ : Type} (I : Iface σ) (c : Cfg σ) (o : RunOut σ)
    (h : unitStep I c = .stop o) : o.crash = none ∧ o.rest = c.input ∧ o.header = c.header := by
  have := unitStep_position I c
  rwa [h] at this

theorem runLoop_fuel_irrelevant {σ : Type} (I : Iface σ) (f1 f2 : Nat) (h : Node) (input : Bytes)
    (w : Writer) (s : σ) (h1 : input.length < f1) (h2 : input.length < f2) :
    runLoop I f1 h input w s = runLoop I f2 h input w s := by
  induction f1 generalizing f2 h input w s with
  | zero => omega
  | succ n ih =>
    cases f2 with
    | zero => omega
    | succ m =>
      rw [runLoop_succ I n ⟨h, input, w, s⟩, runLoop_succ I m ⟨h, input, w, s⟩]
      split
      · rfl
      · cases hs : unitStep I ⟨h, input, w, s⟩ with
        | stop o => rfl
        | next c =>
          have := (unitStep_next_lt I _ _ hs).1
          exact ih m _ _ _ _ (Nat.lt_of_lt_of_le this (Nat.le_of_lt_succ h1))
            (Nat.lt_of_lt_of_le this (Nat.le_of_lt_succ h2))

theorem runLoop_eq_runFrom {σ : Type} (I : Iface σ) (f : Nat) (h : Node) (input : Bytes)
    (w : Writer) (s : σ) (hf : input.length < f) : runLoop I f h input w s = runFrom I h input w s :=
  runLoop_fuel_irrelevant I _ _ _ _ _ _ hf (Nat.lt_succ_self _)

theorem runFrom_nil {σ : Type} (I : Iface σ) (h : Node) (w : Writer) (s : σ) :
    runFrom I h [] w s = { rest := [], header := h, w := w, s := s } :=
  runLoop_succ I 0 ⟨h, [], w, s⟩

theorem runFrom_step {σ : Type} (I : Iface σ) (h : Node) (input : Bytes) (w : Writer) (s : σ)
    (hne : input ≠ []) :
    runFrom I h input w s =
      match unitStep I ⟨h, input, w, s⟩ with
      | .stop o => o
      | .next c => runFrom I c.header c.input c.w c.s := by
  unfold runFrom
  rw [runLoop_succ I _ ⟨h, input, w, s⟩, if_neg (by simpa using hne)]
  cases hs : unitStep I ⟨h, input, w, s⟩ with
  | stop o => rfl
  | next c => exact runLoop_eq_runFrom I _ _ _ _ _ (unitStep_next_lt I _ _ hs).1

theorem runFrom_stop {σ : Type} {I : Iface σ} {h : Node} {input : Bytes} {w : Writer} {s : σ}
    {o : RunOut σ} (hne : input ≠ []) (hs : unitStep I ⟨h, input, w, s⟩ = .stop o) :
    runFrom I h input w s = o := by
  rw [runFrom_step I h input w s hne, hs]

theorem runFrom_next {σ : Type} {I : Iface σ} {h : Node} {input : Bytes} {w : Writer} {s : σ}
    {c : Cfg σ} (hne : input ≠ []) (hs : unitStep I ⟨h, input, w, s⟩ = .next c) :
    runFrom I h input w s = runFrom I c.header c.input c.w c.s := by
  rw [runFrom_step I h input w s hne, hs]

theorem runFrom_fault {σ : Type} (I : Iface σ) (h : Node) (x : Bytes) (w : Writer) (s : σ) (e : Err)
    (hne : x ≠ []) (hf : ParseFault I ⟨h, x, w, s⟩ e) :
    runFrom I h x w s =
      match afterNewline x with
      | some rest => runFrom I I.root rest w (I.onError s e)
      | none => { rest := x, header := h, w := w, s := I.onError s e } := by
  rw [runFrom_step I h x w s hne, unitStep_fault I _ e hf]
  cases afterNewline x <;> rfl

theorem runFrom_induct {σ : Type} (I : Iface σ) {motive : Cfg σ → RunOut σ → Prop}
    (nil : ∀ c, c.input = [] → motive c { rest := [], header := c.header, w := c.w, s := c.s })
    (stop : ∀ c o, c.input ≠ [] → unitStep I c = .stop o → motive c o)
    (next : ∀ c c' o, c.input ≠ [] → unitStep I c = .next c' → motive c' o → motive c o) :
    ∀ c : Cfg σ, motive c (runFrom I c.header c.input c.w c.s) := by
  intro c
  generalize hn : c.input.length = n
  induction n using Nat.strongRecOn generalizing c with
  | _ n ih =>
    by_cases h0 : c.input = []
    · rw [h0, runFrom_nil]
      exact nil c h0
    · cases hs : unitStep I c with
      | stop o =>
        rw [runFrom_stop h0 hs]
        exact stop c o h0 hs
      | next c' =>
        rw [runFrom_next h0 hs]
        exact next c c' _ h0 hs (ih _ (hn ▸ (unitStep_next_lt I c c' hs).1) c' rfl)

/-- T5.1/T5.2; running out of fuel would be the crash `noProgress`. -/
theorem runFrom_good {σ : Type} (I : Iface σ) (h : Node) (x : Bytes) (w : Writer) (s : σ) :
    (runFrom I h x w s).crash = none ∧ (runFrom I h x w s).rest <:+ x :=
  runFrom_induct I (motive := fun c o => o.crash = none ∧ o.rest <:+ c.input)
    (fun _ _ => ⟨rfl, List.nil_suffix⟩)
    (fun c o _ hs => by
      obtain ⟨h1, h2, _⟩ := unitStep_stop_no_crash I c o hs
      exact ⟨h1, h2 ▸ List.suffix_refl _⟩)
    (fun c c' _ _ hs ih => ⟨ih.1, ih.2.trans (unitStep_next_lt I c c' hs).2⟩) ⟨h, x, w, s⟩

/-! A relation between the writers and user states of two runs (of one interface, or of two over
the same tree) that every `execute` and every error report keeps is kept by the runs, and the
runs stop at the same place. -/

def Step.Rel {σ τ : Type} (R : Writer → σ → Writer → τ → Prop) : Step σ → Step τ → Prop
  | .stop o, .stop o' => o'.rest = o.rest ∧ o'.header = o.header ∧ R o.w o.s o'.w o'.s
  | .next c, .next c' => c'.header = c.header ∧ c'.input = c.input ∧ R c.w c.s c'.w c'.s
  | _, _ => False

section
variable {σ τ : Type} (I : Iface σ) (J : Iface τ) (hroot : J.root = I.root)
  (R : Writer → σ → Writer → τ → Prop)
  (hexec : ∀ call w s w' s', R w s w' s' →
    R (execute I call w s).2.1 (reportExec I (execute I call w s).1 (execute I call w s).2.2)
      (execute J call w' s').2.1 (reportExec J (execute J call w' s').1 (execute J call w' s').2.2))
  (herr : ∀ e w s w' s', R w s w' s' → R w (I.onError s e) w' (J.onError s' e))
include hroot hexec herr

theorem unitStep_inv₂ (c : Cfg σ) (w' : Writer) (s' : τ) (hR : R c.w c.s w' s') :
    Step.Rel R (unitStep I c) (unitStep J ⟨c.header, c.input, w', s'⟩) :=
  unitStep_cases₂ I J hroot c w' s' (motive := Step.Rel R) (fun _ => ⟨rfl, rfl, hR⟩)
    (fun e _ _ => ⟨rfl, rfl, herr e _ _ _ _ hR⟩) (fun e _ _ _ => ⟨hroot, rfl, herr e _ _ _ _ hR⟩)
    (fun _ _ => ⟨hroot, rfl, hR⟩) (fun _ call _ => ⟨by rw [hroot], rfl, hexec call _ _ _ _ hR⟩)

theorem runFrom_inv₂ (h : Node) (x : Bytes) (w : Writer) (s : σ) (w' : Writer) (s' : τ)
    (hR : R w s w' s') :
    (runFrom J h x w' s').rest = (runFrom I h x w s).rest ∧
    (runFrom J h x w' s').header = (runFrom I h x w s).header ∧
    R (runFrom I h x w s).w (runFrom I h x w s).s
      (runFrom J h x w' s').w (runFrom J h x w' s').s := by
  refine runFrom_induct I (motive := fun c o => ∀ w' s', R c.w c.s w' s' →
    (runFrom J c.header c.input w' s').rest = o.rest ∧
    (runFrom J c.header c.input w' s').header = o.header ∧
    R o.w o.s (runFrom J c.header c.input w' s').w (runFrom J c.header c.input w' s').s)
    ?_ ?_ ?_ ⟨h, x, w, s⟩ w' s' hR
  · intro c h0 w' s' hR
    rw [h0, runFrom_nil]
    exact ⟨rfl, rfl, hR⟩
  · intro c o hne hs w' s' hR
    have hst := unitStep_inv₂ I J hroot R hexec herr c w' s' hR
    rw [hs] at hst
    cases hs' : unitStep J ⟨c.header, c.input, w', s'⟩ with
    | stop o' =>
      rw [hs'] at hst
      rw [runFrom_stop hne hs']
      exact hst
    | next c' =>
      rw [hs'] at hst
      exact hst.elim
  · intro c c₁ o hne hs ih w' s' hR
    have hst := unitStep_inv₂ I J hroot R hexec herr c w' s' hR
    rw [hs] at hst
    cases hs' : unitStep J ⟨c.header, c.input, w', s'⟩ with
    | stop o' =>
      rw [hs'] at hst
      exact hst.elim
    | next c' =>
      rw [hs'] at hst
      rw [runFrom_next hne hs', hst.1, hst.2.1]
      exact ih c'.w c'.s hst.2.2

end

theorem runFrom_pos_indep {σ : Type} (I : Iface σ) (h : Node) (x : Bytes) (w w' : Writer)
    (s s' : σ) :
    (runFrom I h x w s).rest = (runFrom I h x w' s').rest ∧
    (runFrom I h x w s).header = (runFrom I h x w' s').header :=
  have := runFrom_inv₂ I I rfl (fun _ _ _ _ => True) (fun _ _ _ _ _ _ => trivial)
    (fun _ _ _ _ _ _ => trivial) h x w' s' w s trivial
  ⟨this.1, this.2.1⟩

theorem reportExec_inv {σ : Type} (I : Iface σ) {P : σ → Prop}
    (herr : ∀ s e, P s → P (I.onError s e)) {s : σ} (hs : P s) (r : ExecRes) :
    P (reportExec I s r) := by
  cases r with
  | err e => exact herr s e hs
  | _ => exact hs

theorem runFrom_inv {σ : Type} (I : Iface σ) (R : Writer → σ → Prop)
    (hexec : ∀ call w s, R w s → R (execute I call w s).2.1 (execute I call w s).1)
    (herr : ∀ w s e, R w s → R w (I.onError s e)) (h : Node) (x : Bytes) (w : Writer) (s : σ)
    (hw : R w s) : R (runFrom I h x w s).w (runFrom I h x w s).s :=
  (runFrom_inv₂ I I rfl (fun w s _ _ => R w s)
    (fun call w s _ _ hR => reportExec_inv I (herr _) (hexec call w s hR) _)
    (fun e w s _ _ hR => herr w s e hR) h x w s w s hw).2.2

theorem Writer.Kept.runFrom {P : Writer → Prop} {σ : Type} (hP : Writer.Kept P) (I : Iface σ)
    (h : Node) (x : Bytes) (w : Writer) (s : σ) (hw : P w) : P (runFrom I h x w s).w :=
  runFrom_inv I (fun w _ => P w) (fun call w s => hP.execute I call w s) (fun _ _ _ h => h)
    h x w s hw

theorem extends_runFrom {σ : Type} (I : Iface σ) (h : Node) (x : Bytes) (w : Writer) (s : σ) :
    Writer.Extends w (runFrom I h x w s).w := (Writer.kept_extends w).runFrom I h x w s (.refl w)

structure Iface.Preserves {σ : Type} (I : Iface σ) (P : σ → Prop) : Prop where
  handler : ∀ (id : Nat) (c : Cmd σ), I.cmds[id]? = some c → ∀ s tvs, P s → P (c.handler s tvs).1
  onError : ∀ s e, P s → P (I.onError s e)

def E2E.stepState {σ : Type} : Step σ → σ
  | .stop o => o.s
  | .next c => c.s

section
open E2E
variable {σ : Type} {I : Iface σ} {P : σ → Prop}

theorem execute_preserves (hI : I.Preserves P) (call : CommandCall) (w : Writer) (s : σ)
    (hs : P s) : P (execute I call w s).1 := by
  have hh : ∀ c tvs s' r, resolveCmd I call = some c → c.handler s tvs = (s', r) → P s' :=
    fun c tvs s' r hr he => by
      obtain ⟨id, _, hc⟩ := resolveCmd_eq_some.1 hr
      simpa only [he] using hI.handler id c hc s tvs hs
  exact execute_cases I call w s (motive := fun r => P r.1) (fun _ => hs) (fun _ _ _ => hs)
    (fun _ _ _ _ _ => hs) (fun c tvs s' _ hr _ _ he => hh c tvs s' _ hr he)
    (fun c tvs s' _ hr _ _ he => hh c tvs s' _ hr he)

theorem unitStep_preserves (hI : I.Preserves P) (c : Cfg σ) (hs : P c.s) :
    P (stepState (unitStep I c)) :=
  unitStep_cases I c (motive := fun st => P (stepState st)) (fun _ => hs)
    (fun e _ _ => hI.onError c.s e hs) (fun e _ _ _ => hI.onError c.s e hs) (fun _ _ => hs)
    (fun _ call _ => reportExec_inv I hI.onError (execute_preserves hI call c.w c.s hs) _)

theorem runFrom_preserves (hI : I.Preserves P) (h : Node) (x : Bytes) (w : Writer) (s : σ)
    (hs : P s) : P (runFrom I h x w s).s :=
  runFrom_inv I (fun _ s => P s) (fun call w s => execute_preserves hI call w s)
    (fun _ s e => hI.onError s e) h x w s hs

end

/-- The loop as a big-step relation over `unitStep` (C02). -/
inductive Runs {σ : Type} (I : Iface σ) : Cfg σ → RunOut σ → Prop where
  | done (c : Cfg σ) : c.input = [] →
      Runs I c { rest := [], header := c.header, w := c.w, s := c.s }
  | stop (c : Cfg σ) (o : RunOut σ) : c.input ≠ [] → unitStep I c = .stop o → Runs I c o
  | step (c c' : Cfg σ) (o : RunOut σ) : c.input ≠ [] → unitStep I c = .next c' → Runs I c' o →
      Runs I c o

theorem runFrom_iff_runs {σ : Type} (I : Iface σ) (c : Cfg σ) (o : RunOut σ) :
    runFrom I c.header c.input c.w c.s = o ↔ Runs I c o := by
  refine ⟨fun h => h ▸ runFrom_induct I Runs.done Runs.stop Runs.step c, fun h => ?_⟩
  induction h with
  | done c h0 => rw [h0, runFrom_nil]
  | stop c o hne hs => exact runFrom_stop hne hs
  | step c c' o hne hs _ ih => exact (runFrom_next hne hs).trans ih

def IsTrace {σ : Type} (I : Iface σ) : Cfg σ → List (Cfg σ) → Cfg σ → Prop
  | c, [], last => c = last
  | c, c' :: cs, last => c.input ≠ [] ∧ unitStep I c = .next c' ∧ IsTrace I c' cs last

end Scpi
